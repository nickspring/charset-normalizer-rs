/-
  Fault-instrumented retry loop of `utils::decode` (utils.rs:226-253): the slice `&input[begin..end]`,
  `end_offset -= 1`, `end_offset - begin_offset` and `chunk_len - end_offset` are operations that can fail
  (slice out of order / unsigned underflow).  `Props/C02Faults.lean` proves they never do, for every strict
  decoder that accepts the empty input, and that the loop computes exactly `chunkRetry`.
-/
import CharsetProof.Model.Decode
import CharsetProof.Model.MdFault
namespace Charset
open Md (FE subF)

/-- result of the instrumented loop: a fault, or what the plain loop returns -/
def sliceFE (site : Nat) (b : Bytes) (i j : Nat) : FE Bytes :=
  if i ≤ j ∧ j ≤ b.length then .ok ((b.drop i).take (j - i)) else .error (.slice site)

/-- utils.rs:246-249 `end_offset - begin_offset < 1 || begin_offset > 3 || (chunk_len - end_offset) > 3` -/
def retryStopF (len b e : Nat) : FE Bool :=
  match subF 246 e b with
  | .error f => .error f
  | .ok d =>
    if d < 1 ∨ 3 < b then .ok true      -- `||` short-circuits: the last subtraction is not evaluated
    else match subF 248 len e with
      | .error f => .error f
      | .ok r => .ok (decide (3 < r))

def chunkRetryF (strict : Bytes → Except ErrKind Text) (input : Bytes) :
    Nat → Nat → Nat → FE (Except ErrKind Text)
  | 0, beginOff, endOff =>
    match sliceFE 229 input beginOff endOff with
    | .error f => .error f
    | .ok sl => .ok (strict sl)
  | fuel + 1, beginOff, endOff =>
    match sliceFE 229 input beginOff endOff with
    | .error f => .error f
    | .ok sl =>
      match strict sl with
      | .ok t => .ok (.ok t)
      | .error k =>
        let b' := if k = .invalid then beginOff + 1 else beginOff
        match (if k = .incomplete then subF 244 endOff 1 else .ok endOff) with
        | .error f => .error f
        | .ok e' =>
          match retryStopF input.length b' e' with
          | .error f => .error f
          | .ok true => .ok (.error k)
          | .ok false => chunkRetryF strict input fuel b' e'

end Charset
