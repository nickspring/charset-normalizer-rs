/-
  The fully modelled world: mess detector, coherence detector and merge are Lean code.
-/
import CharsetProof.Model.MdWorld
import CharsetProof.Model.Coh
namespace Charset

/-- The current tree with the mess detector *and* the coherence detector inside the model:
    `mess` = `Md.messRatio` over `menv`, `coh` = `Coh.coherenceRatio` over `cenv` and the dumped tables,
    `merge` = `mergeModel`; the decoders of every supported encoding are Lean definitions too (Model/Cjk.lean for the
    multi-byte legacy ones), so the oracle argument is never consulted (Props/C11Full.lean proves it irrelevant). -/
def worldFull (menv : Md.MdEnv) (cenv : Coh.CohEnv) (o : Oracle) : World Name Name :=
  { worldNow o with
    mess := messGuarded menv
    coh := fun t thr langs =>
      .ok (Coh.coherenceRatio cenv Gen.unicodeRanges Gen.secondaryKeywords Gen.languages Gen.tooSmall t thr langs) }

end Charset
