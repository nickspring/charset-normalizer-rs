/-
  Model of the language targets of an encoding (`cd.rs`): `encoding_unicode_range`,
  `unicode_range_languages`, `encoding_languages` (single-byte code pages) and `mb_encoding_languages`.
  The single-byte decoding tables, the block table, the secondary keywords and the language table are
  dumped from the compiled crate (T1); what is computed from them is Lean code, and
  `Props/C10Targets.lean` proves that the dumped `targetLanguages` table is exactly what this model computes.
-/
import CharsetProof.Model.Concrete
import CharsetProof.Model.RangeRules
namespace Charset

/-- `encoding_unicode_range(name)` for a single-byte code page given by its decoding table:
    the primary ranges that hold at least 15 % of the characters of bytes 0x40..0xFE, sorted by name -/
def encodingUnicodeRange (tbl : List Nat) : List Name :=
  let rs : List Name := (List.range (0xFF - 0x40)).filterMap (fun k =>
    match tbl[0x40 + k]? with
    | none => none
    | some cp =>
      if cp = undefCp then none
      else (unicodeRangeOf Gen.unicodeRanges cp).filter (fun r => !rangeSecondary Gen.secondaryKeywords r))
  let total := rs.length
  let kept := (dedup rs).filter (fun r =>
    Fl.ge (Fl.div (Fl.ofNat fmt32 (rs.filter (· == r)).length) (Fl.ofNat fmt32 total)) (F32.lit 15 100))
  insertionSort nameLt kept

/-- `unicode_range_languages(range)`: languages one of whose characters lies in the range, in table order -/
def unicodeRangeLanguages (r : Name) : List Name :=
  Gen.languages.filterMap (fun row =>
    if row.2.1.any (fun c => (unicodeRangeOf Gen.unicodeRanges c).getD [] == r) then some row.1 else none)

def nUnknownTarget : Name := [85,110,107,110,111,119,110]

/-- `encoding_languages(name)` -/
def encodingLanguages (tbl : List Nat) : List Name :=
  match (encodingUnicodeRange tbl).find? (fun r => !containsSub r sLatin) with
  | some r => unicodeRangeLanguages r
  | none => [nUnknownTarget]

/-- what `from_bytes` computes as target languages of a candidate (lib.rs:375-385) -/
def targetLanguagesModel (e : Name) : Option (List Name) :=
  if Gen.multiByte.contains e then some ((lookupName Gen.encodingToLanguage e).toList)
  else match codecNow e with
    | some (.table tbl) => some (encodingLanguages tbl)
    | _ => none

end Charset
