/-
  Fault-instrumented mess detector: the same plugins and loop as `Model/Md.lean`, written the way the Rust
  code evaluates them – every `Option::unwrap()` (md/plugins.rs: 6 sites), the `%` and the `-` of the
  early-calculation test (md.rs) are operations that can fail, in the order and under the short-circuit
  guards of the source.  `Props/C02Faults.lean` proves that no failure is reachable and that the instrumented
  functions compute exactly the plain model, for every Unicode environment, text and threshold: the plugin
  `unwrap`s of the panic-site inventory are dead.
-/
import CharsetProof.Model.Md
namespace Charset
namespace Md

abbrev FE := Except Fault

def unwrapF {α : Type} (site : Nat) : Option α → FE α
  | some x => .ok x
  | none => .error (.unwrapNone site)

/-- unsigned subtraction (panics below zero in checked builds, wraps otherwise – wrong either way) -/
def subF (site a b : Nat) : FE Nat := if b ≤ a then .ok (a - b) else .error (.overflow site)

/-- unsigned remainder -/
def modF (site a b : Nat) : FE Nat := if b = 0 then .error (.divZero site) else .ok (a % b)

/-- plugins.rs:43  `self.last_printable_char.is_none() || *character != self.last_printable_char.unwrap()` -/
def P1.changedF (s : P1) (c : CharInfo) : FE Bool :=
  if s.last.isNone then .ok true
  else match unwrapF 43 s.last with
    | .error e => .error e
    | .ok l => .ok (c.cp != l)

def P1.feedF (s : P1) (c : CharInfo) : FE P1 :=
  let s := { s with count := s.count + 1 }
  match P1.changedF s c with
  | .error e => .error e
  | .ok ch =>
    let s := if ch && !c.is COMMON_SAFE then s.bump c else s
    .ok { s with last := some c.cp }

/-- plugins.rs:194-214 -/
def P4.feedF (env : MdEnv) (s : P4) (c : CharInfo) : FE P4 :=
  let s := { s with count := s.count + 1 }
  if c.is WHITESPACE || c.is PUNCTUATION || c.is COMMON_SAFE then .ok { s with last := none }
  else if s.last.isNone then .ok { s with last := some c }
  else match unwrapF 208 s.last with
    | .error e => .error e
    | .ok l =>
      let s := if env.susp l.range c.range then { s with susp := s.susp + 1 } else s
      .ok { s with last := some c }

/-- plugins.rs:144-149  `is_some() && character.is(ACCENTUATED) && last.unwrap().is(ACCENTUATED)` -/
def P5.guardF (s : P5) (c : CharInfo) : FE Bool :=
  if s.last.isSome && c.is ACCENTUATED then
    match unwrapF 148 s.last with
    | .error e => .error e
    | .ok l => .ok (l.is ACCENTUATED)
  else .ok false

/-- plugins.rs:151-156  `character.is(UPPERCASE) && last.unwrap().is(UPPERCASE)` -/
def P5.upperF (s : P5) (c : CharInfo) : FE Bool :=
  if c.is UPPERCASE then
    match unwrapF 154 s.last with
    | .error e => .error e
    | .ok l => .ok (l.is UPPERCASE)
  else .ok false

def P5.feedF (s : P5) (c : CharInfo) : FE P5 :=
  let s := { s with count := s.count + 1 }
  match P5.guardF s c with
  | .error e => .error e
  | .ok false => .ok { s with last := some c }
  | .ok true =>
    match P5.upperF s c with
    | .error e => .error e
    | .ok up =>
      let s1 := if up then { s with successive := s.successive + 1 } else s
      match unwrapF 162 s.last with
      | .error e => .error e
      | .ok l =>
        let s2 := if c.base = l.base then { s1 with successive := s1.successive + 1 } else s1
        .ok { s2 with last := some c }

/-- plugins.rs:274-289  `let last_char = self.buffer.last().unwrap()` inside `buffer_length >= 4` -/
def P6.shortF (s : P6) : FE P6 :=
  let n := s.buffer.length
  if 4 ≤ n then
    let s := if Fl.gt (Fl.div (f32 s.bufAccent) (f32 n)) (F32.lit 34 100) then { s with curBad := true } else s
    match unwrapF 282 s.buffer.getLast? with
    | .error e => .error e
    | .ok l =>
      if l.is ACCENTUATED && l.is UPPERCASE then
        .ok { s with foreignLong := s.foreignLong + 1, curBad := true }
      else .ok s
  else .ok s

def P6.endWordF (s : P6) : FE P6 :=
  let s := { s with words := s.words + 1, count := s.count + s.buffer.length }
  match s.shortF with
  | .error e => .error e
  | .ok s =>
    let s := s.long
    let s := if s.curBad then
        { s with badWords := s.badWords + 1, badChars := s.badChars + s.buffer.length, curBad := false }
      else s
    .ok { s with watch := false, buffer := [], bufAccent := 0 }

def P6.feedF (s : P6) (c : CharInfo) : FE P6 :=
  if c.is ASCII_ALPHABETIC then
    .ok { s with
      buffer := s.buffer ++ [c]
      bufAccent := if c.is ACCENTUATED then s.bufAccent + 1 else s.bufAccent
      watch := s.watch || ((!c.is LATIN || c.is ACCENTUATED) && !c.is CJK && !c.is HANGUL
                            && !c.is KATAKANA && !c.is HIRAGANA && !c.is THAI) }
  else if s.buffer.isEmpty then .ok s
  else if c.is WHITESPACE || c.is PUNCTUATION || c.is SEPARATOR then s.endWordF
  else if !c.is WEIRD_SAFE && !c.is ASCII_DIGIT && c.is SYMBOL then
    .ok { s with curBad := true, buffer := s.buffer ++ [c] }
  else .ok s

/-- `detectors.iter_mut().filter(eligible).for_each(feed)`, in the order of the vector -/
def Dets.feedF (env : MdEnv) (d : Dets) (c : CharInfo) : FE Dets :=
  match (if P1.eligible c then d.p1.feedF c else .ok d.p1) with
  | .error e => .error e
  | .ok p1 =>
  match (if P4.eligible c then d.p4.feedF env c else .ok d.p4) with
  | .error e => .error e
  | .ok p4 =>
  match (if P5.eligible c then d.p5.feedF c else .ok d.p5) with
  | .error e => .error e
  | .ok p5 =>
  match d.p6.feedF c with
  | .error e => .error e
  | .ok p6 =>
    .ok { p1 := p1
          p2 := if P2.eligible c then d.p2.feed c else d.p2
          p3 := d.p3.feed c
          p4 := p4
          p5 := p5
          p6 := p6
          p7 := d.p7.feed c
          p8 := d.p8.feed c }

/-- md.rs: `index % early_calc_period == early_calc_period - 1` -/
def checkpointF (idx p : Nat) : FE Bool :=
  match modF 57 idx p with
  | .error e => .error e
  | .ok r =>
    match subF 57 p 1 with
    | .error e => .error e
    | .ok q => .ok (r == q)

def loopF (env : MdEnv) (p : Nat) (thr : F32) : Dets → Nat → List Nat → FE F32
  | d, _, [] => .ok d.sum
  | d, idx, c :: cs =>
    match d.feedF env (env.info c) with
    | .error e => .error e
    | .ok d =>
      match checkpointF idx p with
      | .error e => .error e
      | .ok cp =>
        if cp ∧ Fl.ge d.sum thr then .ok d.sum
        else loopF env p thr d (idx + 1) cs

/-- `mess_ratio` with every partial operation explicit -/
def messRatioF (env : MdEnv) (t : Text) (thr : F32) : FE F32 :=
  loopF env (period t.length) thr {} 0 (t ++ [10])

end Md
end Charset
