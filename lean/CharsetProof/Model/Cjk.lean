/-
  The multi-byte legacy decoders of the codec library (`encoding` 0.2.33, src/codec/{korean,tradchinese,
  simpchinese,japanese}.rs), as strict whole-input decoders: `windows-949` (label euc-kr), `big5-2003`,
  `gb18030` (also serving gbk), `euc-jp`, `windows-31j` (label shift_jis) and the stateful `iso-2022-jp`.
  Each decoder is a *step function* (one character, or one escape sequence, from the head of the input –
  transcribed from the crate's `stateful_decoder!` state machines) run to the end of the input by one generic
  loop.  The index tables (pointer → code point) are dumped from the compiled index crates on every run
  (`Generated/CjkTables.lean`, tie T1) and every decoder is compared with the crate on generated byte strings
  (tie T3, driver op `decode`).  Strict means: the text if every byte sequence is valid, otherwise the kind of
  the first problem ("invalid sequence", or "incomplete sequence" when the input ends inside a character / an
  escape sequence).
-/
import CharsetProof.Model.Codec
import CharsetProof.Generated.CjkTables
namespace Charset
namespace Cjk

def hexVal (c : Char) : Nat := if c.toNat < 58 then c.toNat - 48 else c.toNat - 87

def parseHex6Aux : List Char → Array Nat → Array Nat
  | a :: b :: c :: d :: e :: f :: rest, acc =>
    parseHex6Aux rest (acc.push (((((hexVal a * 16 + hexVal b) * 16 + hexVal c) * 16 + hexVal d) * 16 + hexVal e) * 16 + hexVal f))
  | _, acc => acc

def parseHex6 (s : String) : Array Nat := parseHex6Aux s.toList #[]

def eucKrTbl : Array Nat := parseHex6 Gen.eucKrHex
def big5Tbl : Array Nat := parseHex6 Gen.big5Hex
def gb18030Tbl : Array Nat := parseHex6 Gen.gb18030Hex
def jis0208Tbl : Array Nat := parseHex6 Gen.jis0208Hex
def jis0212Tbl : Array Nat := parseHex6 Gen.jis0212Hex

/-- `index::…::forward(pointer)`; `none` = 0xffff -/
def fwd (t : Array Nat) (p : Nat) : Option Nat :=
  match t[p]? with
  | some v => if v = 0xFFFFFF then none else some v
  | none => none

def inR (lo hi b : Nat) : Bool := decide (lo ≤ b) && decide (b ≤ hi)

/-- one step of a decoder in state `σ`: the characters emitted, the next state, the remaining input -/
abbrev Step (σ : Type) := σ → Nat → Bytes → Except ErrKind (List Nat × σ × Bytes)

/-- run a step function to the end of the input (`fuel` bounds the number of steps; every step consumes a byte) -/
def run {σ : Type} (step : Step σ) : Nat → σ → Bytes → Except ErrKind Text
  | 0, _, _ => .error .invalid
  | _ + 1, _, [] => .ok []
  | fuel + 1, s, b :: rest =>
    match step s b rest with
    | .error k => .error k
    | .ok (cs, s', rest') =>
      match run step fuel s' rest' with
      | .error k => .error k
      | .ok t => .ok (cs ++ t)

def decodeWith {σ : Type} (step : Step σ) (s0 : σ) (x : Bytes) : Except ErrKind Text := run step (x.length + 1) s0 x

/-! ### windows-949 (euc-kr) -/

def eucKrStep (tb : Array Nat) : Step Unit := fun _ b rest =>
  if b < 0x80 then .ok ([b], (), rest)
  else if inR 0x81 0xFE b then
    match rest with
    | [] => .error .incomplete
    | t :: rest' =>
      if inR 0x41 0xFE t then
        match fwd tb ((b - 0x81) * 190 + (t - 0x41)) with
        | some ch => .ok ([ch], (), rest')
        | none => .error .invalid
      else .error .invalid
  else .error .invalid

/-! ### big5-2003 -/

def big5Step (tb : Array Nat) : Step Unit := fun _ b rest =>
  if b < 0x80 then .ok ([b], (), rest)
  else if inR 0x81 0xFE b then
    match rest with
    | [] => .error .incomplete
    | t :: rest' =>
      if inR 0x40 0x7E t || inR 0xA1 0xFE t then
        let off := if t < 0x7F then 0x40 else 0x62
        match fwd tb ((b - 0x81) * 157 + t - off) with
        | none => .error .invalid
        | some ch =>
          -- the four pointers whose "code point" is a two-letter replacement
          if ch = 0 then .ok ([0xCA, 0x304], (), rest')
          else if ch = 1 then .ok ([0xCA, 0x30C], (), rest')
          else if ch = 2 then .ok ([0xEA, 0x304], (), rest')
          else if ch = 3 then .ok ([0xEA, 0x30C], (), rest')
          else .ok ([ch], (), rest')
      else .error .invalid
  else .error .invalid

/-! ### gb18030 / gbk -/

/-- `gb18030_ranges::forward` -/
def gbRange (ranges : List (Nat × Nat)) (code : Nat) : Option Nat :=
  if (39419 < code ∧ code < 189000) ∨ 1237575 < code then none
  else
    match (ranges.filter (fun r => r.1 ≤ code)).getLast? with
    | some r => some (r.2 + (code - r.1))
    | none => none

/-- the four-byte form, after `b1 b2` with `b2` a digit byte -/
def gbFour (ranges : List (Nat × Nat)) (b1 b2 : Nat) (rest2 : Bytes) : Except ErrKind (List Nat × Unit × Bytes) :=
  match rest2 with
  | [] => .error .incomplete
  | b3 :: rest3 =>
    if inR 0x81 0xFE b3 then
      match rest3 with
      | [] => .error .incomplete
      | b4 :: rest4 =>
        if inR 0x30 0x39 b4 then
          match gbRange ranges ((b1 - 0x81) * 12600 + (b2 - 0x30) * 1260 + (b3 - 0x81) * 10 + (b4 - 0x30)) with
          | some ch => .ok ([ch], (), rest4)
          | none => .error .invalid
        else .error .invalid
    else .error .invalid

def gbStep (tb : Array Nat) (ranges : List (Nat × Nat)) : Step Unit := fun _ b rest =>
  if b < 0x80 then .ok ([b], (), rest)
  else if b = 0x80 then .ok ([0x20AC], (), rest)
  else if inR 0x81 0xFE b then
    match rest with
    | [] => .error .incomplete
    | b2 :: rest2 =>
      if inR 0x30 0x39 b2 then gbFour ranges b b2 rest2
      else if inR 0x40 0x7E b2 || inR 0x80 0xFE b2 then
        let off := if b2 < 0x7F then 0x40 else 0x41
        match fwd tb ((b - 0x81) * 190 + b2 - off) with
        | some ch => .ok ([ch], (), rest2)
        | none => .error .invalid
      else .error .invalid
  else .error .invalid

/-! ### euc-jp -/

/-- a two-byte JIS pair in the 0xA1..0xFE × 0xA1..0xFE square -/
def eucJpPair (tb : Array Nat) (lead : Nat) (rest : Bytes) : Except ErrKind (List Nat × Unit × Bytes) :=
  match rest with
  | [] => .error .incomplete
  | t :: rest' =>
    if inR 0xA1 0xFE t then
      match fwd tb ((lead - 0xA1) * 94 + t - 0xA1) with
      | some ch => .ok ([ch], (), rest')
      | none => .error .invalid
    else .error .invalid

def eucJpStep (t208 t212 : Array Nat) : Step Unit := fun _ b rest =>
  if b < 0x80 then .ok ([b], (), rest)
  else if b = 0x8E then
    match rest with
    | [] => .error .incomplete
    | t :: rest' => if inR 0xA1 0xDF t then .ok ([0xFF61 + t - 0xA1], (), rest') else .error .invalid
  else if b = 0x8F then
    match rest with
    | [] => .error .incomplete
    | l :: rest' => if inR 0xA1 0xFE l then eucJpPair t212 l rest' else .error .invalid
  else if inR 0xA1 0xFE b then eucJpPair t208 b rest
  else .error .invalid

/-! ### windows-31j (shift_jis) -/

def sjisMap (t208 : Array Nat) (lead trail : Nat) : Option Nat :=
  let leadoffset := if lead < 0xA0 then 0x81 else 0xC1
  let trailoffset := if trail < 0x7F then 0x40 else 0x41
  let trailOk := inR 0x40 0x7E trail || inR 0x80 0xFC trail
  if inR 0xF0 0xF9 lead && trailOk then some (0xE000 + (lead - 0xF0) * 188 + trail - trailoffset)
  else if (inR 0x81 0x9F lead || inR 0xE0 0xFC lead) && trailOk then
    fwd t208 ((lead - leadoffset) * 188 + trail - trailoffset)
  else none

def sjisStep (t208 : Array Nat) : Step Unit := fun _ b rest =>
  if b ≤ 0x80 then .ok ([b], (), rest)
  else if inR 0xA1 0xDF b then .ok ([0xFF61 + b - 0xA1], (), rest)
  else if inR 0x81 0x9F b || inR 0xE0 0xFC b then
    match rest with
    | [] => .error .incomplete
    | t :: rest' =>
      match sjisMap t208 b t with
      | some ch => .ok ([ch], (), rest')
      | none => .error .invalid
  else .error .invalid

/-! ### iso-2022-jp -/

inductive JpState | ascii | lead0208 | lead0212 | katakana
  deriving DecidableEq, Repr

def jisPair (tbl : Array Nat) (lead trail : Nat) : Option Nat :=
  if inR 0x21 0x7E lead && inR 0x21 0x7E trail then fwd tbl ((lead - 0x21) * 94 + trail - 0x21) else none

/-- `ESC $ …` -/
def jpEscape24 (r : Bytes) : Except ErrKind (List Nat × JpState × Bytes) :=
  match r with
  | [] => .error .incomplete
  | c :: r' =>
    if c = 0x40 ∨ c = 0x42 then .ok ([], .lead0208, r')
    else if c = 0x28 then
      match r' with
      | [] => .error .incomplete
      | d :: r'' => if d = 0x44 then .ok ([], .lead0212, r'') else .error .invalid
    else .error .invalid

/-- `ESC ( …` -/
def jpEscape28 (r : Bytes) : Except ErrKind (List Nat × JpState × Bytes) :=
  match r with
  | [] => .error .incomplete
  | c :: r' =>
    if c = 0x42 ∨ c = 0x4A then .ok ([], .ascii, r')
    else if c = 0x49 then .ok ([], .katakana, r')
    else .error .invalid

/-- after ESC: the state the escape sequence selects and the rest of the input -/
def jpEscape (rest : Bytes) : Except ErrKind (List Nat × JpState × Bytes) :=
  match rest with
  | [] => .error .incomplete
  | c :: r => if c = 0x24 then jpEscape24 r else if c = 0x28 then jpEscape28 r else .error .invalid

/-- a two-byte character in one of the JIS sets -/
def jpTwo (tbl : Array Nat) (st : JpState) (b : Nat) (rest : Bytes) : Except ErrKind (List Nat × JpState × Bytes) :=
  if b = 0x0A then .ok ([0x0A], .ascii, rest)
  else match rest with
    | [] => .error .incomplete
    | t :: rest' =>
      match jisPair tbl b t with
      | some ch => .ok ([ch], st, rest')
      | none => .error .invalid

def jpStep (t208 t212 : Array Nat) : Step JpState := fun st b rest =>
  if b = 0x1B then jpEscape rest
  else match st with
    | .ascii => if b < 0x80 then .ok ([b], .ascii, rest) else .error .invalid
    | .katakana => if inR 0x21 0x5F b then .ok ([0xFF61 + b - 0x21], .katakana, rest) else .error .invalid
    | .lead0208 => jpTwo t208 .lead0208 b rest
    | .lead0212 => jpTwo t212 .lead0212 b rest

/-! ### the decoders over the dumped tables -/

def eucKr : Bytes → Except ErrKind Text := decodeWith (eucKrStep eucKrTbl) ()
def big5 : Bytes → Except ErrKind Text := decodeWith (big5Step big5Tbl) ()
def gb18030 : Bytes → Except ErrKind Text := decodeWith (gbStep gb18030Tbl Gen.gb18030Ranges) ()
def eucJp : Bytes → Except ErrKind Text := decodeWith (eucJpStep jis0208Tbl jis0212Tbl) ()
def sjis : Bytes → Except ErrKind Text := decodeWith (sjisStep jis0208Tbl) ()
def iso2022jp : Bytes → Except ErrKind Text := decodeWith (jpStep jis0208Tbl jis0212Tbl) .ascii

/-! ### lossy decoding: what a rejected sequence consumes, and the state the decoder continues in

`DecoderTrap::Ignore` / `Replace` go on after a problem. How many bytes a problem swallows is part of each state machine
(`ctx.err` = everything read so far, `ctx.backup_and_err(n)` = all but the last `n` bytes, which are read again), as is the
state it leaves behind (the initial one, except where the machine says otherwise). -/

/-- bytes swallowed by an invalid sequence starting with `b` (at least one) and the state to go on in -/
abbrev ErrInfo (σ : Type) := σ → Nat → Bytes → Nat × σ

/-- events of a lossy decode: `some c` per character, `none` per trapped problem. An incomplete sequence at the end of
    the input is one problem; `fin` says how many of the last bytes are read again afterwards (from the initial state) -/
def events {σ : Type} (step : Step σ) (einfo : ErrInfo σ) (fin : σ → Nat → Bytes → Nat) (s0 : σ) :
    Nat → σ → Bytes → List (Option Nat)
  | 0, _, _ => []
  | _ + 1, _, [] => []
  | fuel + 1, s, b :: rest =>
    match step s b rest with
    | .ok (cs, s', rest') => cs.map some ++ events step einfo fin s0 fuel s' rest'
    | .error .incomplete =>
      let k := fin s b rest
      none :: events step einfo fin s0 fuel s0 ((b :: rest).drop ((b :: rest).length - k))
    | .error .invalid =>
      let r := einfo s b rest
      none :: events step einfo fin s0 fuel r.2 ((b :: rest).drop (max r.1 1))

def eventsWith {σ : Type} (step : Step σ) (einfo : ErrInfo σ) (fin : σ → Nat → Bytes → Nat) (s0 : σ) (x : Bytes) :
    List (Option Nat) := events step einfo fin s0 (2 * x.length + 2) s0 x

def noRefeed {σ : Type} : σ → Nat → Bytes → Nat := fun _ _ _ => 0

/-- windows-949 and big5-2003: an invalid lead is swallowed alone; an invalid pair gives its trail byte back when that is ASCII -/
def pairErr (b : Nat) (rest : Bytes) : Nat :=
  if inR 0x81 0xFE b then
    match rest with
    | t :: _ => if t < 0x80 then 1 else 2
    | [] => 1
  else 1

/-- euc-jp -/
def eucJpErr (b : Nat) (rest : Bytes) : Nat :=
  if b = 0x8E then
    match rest with
    | t :: _ => if inR 0xA1 0xFE t then 2 else 1
    | [] => 1
  else if b = 0x8F then
    match rest with
    | l :: r =>
      if inR 0xA1 0xFE l then
        match r with
        | t :: _ => if inR 0xA1 0xFE t then 3 else 2
        | [] => 2
      else 1
    | [] => 1
  else if inR 0xA1 0xFE b then
    match rest with
    | t :: _ => if inR 0xA1 0xFE t then 2 else 1
    | [] => 1
  else 1

/-- iso-2022-jp: a broken escape sequence swallows the ESC alone and falls back to ASCII; a bad byte in the ASCII or
    katakana set is swallowed alone, a bad pair in a two-byte set as a whole – both stay in their set -/
def jpErr : ErrInfo JpState := fun st b _ =>
  if b = 0x1B then (1, .ascii)
  else match st with
    | .ascii => (1, .ascii)
    | .katakana => (1, .katakana)
    | .lead0208 => (2, .lead0208)
    | .lead0212 => (2, .lead0212)

/-- `ESC $ (` at the very end: the problem is reported one byte early, the `(` is read again as ASCII -/
def jpFin : JpState → Nat → Bytes → Nat := fun _ b rest => if b = 0x1B ∧ rest = [0x24, 0x28] then 1 else 0

def eventsOf (id : Name) : Option (Bytes → List (Option Nat)) :=
  if id = [119,105,110,100,111,119,115,45,57,52,57] then
    some (eventsWith (eucKrStep eucKrTbl) (fun _ b r => (pairErr b r, ())) noRefeed ())
  else if id = [98,105,103,53,45,50,48,48,51] then
    some (eventsWith (big5Step big5Tbl) (fun _ b r => (pairErr b r, ())) noRefeed ())
  else if id = [103,98,49,56,48,51,48] ∨ id = [103,98,107] then
    some (eventsWith (gbStep gb18030Tbl Gen.gb18030Ranges) (fun _ _ _ => (1, ())) noRefeed ())
  else if id = [101,117,99,45,106,112] then
    some (eventsWith (eucJpStep jis0208Tbl jis0212Tbl) (fun _ b r => (eucJpErr b r, ())) noRefeed ())
  else if id = [119,105,110,100,111,119,115,45,51,49,106] then
    some (eventsWith (sjisStep jis0208Tbl) (fun _ _ _ => (1, ())) noRefeed ())
  else if id = [105,115,111,45,50,48,50,50,45,106,112] then
    some (eventsWith (jpStep jis0208Tbl jis0212Tbl) jpErr jpFin .ascii)
  else none

/-- the strict decoder behind a codec id of the library, for the multi-byte legacy codecs -/
def strictOf (id : Name) : Option (Bytes → Except ErrKind Text) :=
  if id = [119,105,110,100,111,119,115,45,57,52,57] then some eucKr                    -- windows-949
  else if id = [98,105,103,53,45,50,48,48,51] then some big5                           -- big5-2003
  else if id = [103,98,49,56,48,51,48] then some gb18030                               -- gb18030
  else if id = [103,98,107] then some gb18030                                           -- gbk (same decoder)
  else if id = [101,117,99,45,106,112] then some eucJp                                 -- euc-jp
  else if id = [119,105,110,100,111,119,115,45,51,49,106] then some sjis               -- windows-31j
  else if id = [105,115,111,45,50,48,50,50,45,106,112] then some iso2022jp             -- iso-2022-jp
  else none

end Cjk
end Charset
