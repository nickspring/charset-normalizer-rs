import CharsetProof.Lemmas.Congr
import CharsetProof.Props.C11
import CharsetProof.Props.C11Full
import CharsetProof.Props.C11Nested
open Charset
#print axioms C11_full_history_irrelevant
#print axioms fromBytes_congr
#print axioms worldFull_agree
#print axioms Nested.C11_nested_history
#print axioms Nested.callSolo_correct
#print axioms Nested.solo_finishes
#print axioms memoCall_correct
#print axioms memoRun_correct
#print axioms C11_history_independent
#print axioms C11_world_ext
#print axioms C11_cached_inventory
