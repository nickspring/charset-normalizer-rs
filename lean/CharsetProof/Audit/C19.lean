import CharsetProof.Lemmas.F32
import CharsetProof.Lemmas.FloatMono
import CharsetProof.Lemmas.Merge
import CharsetProof.Lemmas.Single
import CharsetProof.Lemmas.SortSmall
import CharsetProof.Lemmas.SortWinner
import CharsetProof.Props.C04
import CharsetProof.Props.C10
import CharsetProof.Props.C10Languages
import CharsetProof.Props.C19
import CharsetProof.Props.C19Full
import CharsetProof.Props.Full2
open Charset
#print axioms C19_single_chunk_full
#print axioms mergeModel_single
#print axioms Fl.roundPos_ival
#print axioms Fl.div_one_nn
#print axioms Fl.zero_add_nn
#print axioms C19_result_sorted_current
#print axioms C19_result_sorted_full
#print axioms detection_full_languages
#print axioms mergeModel_sorted
#print axioms sortUnstableSmall_pairwise
#print axioms pairwise_of_sortedAdj
#print axioms sortUnstableSmall_perm
#print axioms C19_cutoff_partial
#print axioms C19_monotone_partial
#print axioms C19_listed_iff_partial
#print axioms C19_sorted
#print axioms C19_sorted_model
#print axioms C19_counterexample
#print axioms thrOk_of_le
#print axioms filterAlt_keys
#print axioms C04_coherence_head
#print axioms C10_most_probable_head
