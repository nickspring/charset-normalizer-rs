import CharsetProof.Lemmas.CharsLe
import CharsetProof.Lemmas.Chunks
import CharsetProof.Lemmas.Codec
import CharsetProof.Lemmas.Master
import CharsetProof.Lemmas.Total
import CharsetProof.Props.C02
import CharsetProof.Props.C02Faults
import CharsetProof.Props.Full
import CharsetProof.Props.Full2
open Charset
#print axioms C02_full
#print axioms detection_full
#print axioms detection_full_companions
#print axioms worldFull_totalOn
#print axioms decodeNow_total_supported
#print axioms targetsCoverSupported
#print axioms fromBytesOn_total
#print axioms supportedModelled
#print axioms C02_from_bytes_total
#print axioms C02_only_documented_error
#print axioms C02_steps_zero_faults
#print axioms tablesNow_sane
#print axioms decodeNow_total_modelled
#print axioms C02_current
#print axioms C02_aliases_total
#print axioms C02_panic_sites_covered
#print axioms Md.C02_mess_ratio_total
#print axioms Md.Dets.feedF_eq
#print axioms Md.loopF_eq
#print axioms chunkRetryF_eq
#print axioms C02_chunk_retry_total
#print axioms codec_strict_nil
#print axioms probe_total
#print axioms detectLoop_total
#print axioms findByCand_append
#print axioms offsets_lt
