import CharsetProof.Lemmas.Chunks
import CharsetProof.Lemmas.EntryFacts
import CharsetProof.Lemmas.F32
import CharsetProof.Lemmas.FloatMono
import CharsetProof.Lemmas.LeOne
import CharsetProof.Lemmas.Md
import CharsetProof.Lemmas.Single
import CharsetProof.Lemmas.SortPerm
import CharsetProof.Props.C04
import CharsetProof.Props.C04Chaos
import CharsetProof.Props.C04Coherence
import CharsetProof.Props.C04Utf8
import CharsetProof.Props.Full2
open Charset
#print axioms C04_chaos_range
#print axioms C04_chaos_range_md
#print axioms C04_chaos_range_full
#print axioms C04_coherence_nonneg_full
#print axioms C04_coherence_unit_interval_full
#print axioms C04_coherence_range_full
#print axioms Fl.roundPos_mono
#print axioms Fl.ival_mono
#print axioms Fl.ival_roundPos_nat
#print axioms Fl.add_key
#print axioms Fl.div_key
#print axioms jaro_le_one
#print axioms mergeModel_scores_le_one
#print axioms Coh.coherenceRatio_scores_ok
#print axioms mergeModel_scores_ok
#print axioms jaro_ok
#print axioms C04_mess_ratio_nonneg
#print axioms worldMd_mess_ok
#print axioms C04_md_flags_covered
#print axioms Md.messRatio_ok
#print axioms meanRatio_ok
#print axioms probeChunks_len
#print axioms Fl.ok_div
#print axioms Fl.ofNat32_pos
#print axioms Fl.ofNat32_lt_inf
#print axioms C04_valid_utf8_nonempty
#print axioms C04_valid_utf8_current
#print axioms C04_valid_utf8_full
#print axioms C04_threshold_full
#print axioms detection_full_verdicts
#print axioms probe_valid_hint
#print axioms C04_threshold
#print axioms C04_lt
#print axioms C04_percents
#print axioms C04_coherence_head
#print axioms C04_coherence_range
#print axioms C04_threshold_current
#print axioms fromBytes_facts
#print axioms sortMatches_perm
