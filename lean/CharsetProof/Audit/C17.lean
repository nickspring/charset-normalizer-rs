import CharsetProof.Lemmas.CharsLe
import CharsetProof.Lemmas.ChunkRetry
import CharsetProof.Lemmas.CjkEvents
import CharsetProof.Lemmas.Codec
import CharsetProof.Lemmas.Utf8
import CharsetProof.Props.C17
open Charset
#print axioms C17_strict_is_codec
#print axioms utf8_strict_events
#print axioms utf16_strict_events
#print axioms C17_lossy_equals_strict_on_clean_input
#print axioms supportedModelled
#print axioms codec_strict_le
#print axioms Cjk.strictOf_le
#print axioms Cjk.events_strict
#print axioms Cjk.eventsOf_strict
#print axioms C17_test_only
#print axioms C17_chunk_mode_irrelevant
#print axioms C17_chunk_mode_single_byte
#print axioms table_strict_events
#print axioms C17_ignore_replace_total
#print axioms C17_utf8_roundtrip
#print axioms C17_utf8_window
#print axioms C17_helper_window
#print axioms encode_feeds
#print axioms Feeds.decode
#print axioms Feeds.prefix_incomplete
#print axioms decodeStrict_window
