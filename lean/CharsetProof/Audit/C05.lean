import CharsetProof.Lemmas.Names
import CharsetProof.Lemmas.Probe
import CharsetProof.Lemmas.SortPerm
import CharsetProof.Props.C05
open Charset
#print axioms C05_filters
#print axioms C05_filters_current
#print axioms C05_unknown_include
#print axioms C05_unknown_exclude
#print axioms C05_spelling_irrelevant
#print axioms canonList_fixed
#print axioms C05_canonical_current
#print axioms C05_empty_input_ignores_filters
#print axioms ianaImageFixed
#print axioms ianaNow_supported
#print axioms sortUnstable_perm
