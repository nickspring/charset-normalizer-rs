import CharsetProof.Lemmas.Master
import CharsetProof.Lemmas.Names
import CharsetProof.Lemmas.Probe
import CharsetProof.Props.C01
import CharsetProof.Props.C06
open Charset
#print axioms C06_declared_is_label
#print axioms C06_declared_zone
#print axioms C06_declared_ascii_only
#print axioms scanDeclared_none_without_ce
#print axioms C06_probeOrder_cons
#print axioms C06_loop
#print axioms C06_from_bytes
#print axioms C06_only_hints_qualify
#print axioms hintsNotSimilarKeys_now
#print axioms probe_alone
#print axioms probe_similarSkip
#print axioms supported_nodup_now
#print axioms detectLoop_rule_full
#print axioms exitCond_iff
#print axioms C01_decodes
