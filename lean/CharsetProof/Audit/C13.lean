import CharsetProof.Lemmas.CharsLe
import CharsetProof.Lemmas.CharsLeNow
import CharsetProof.Lemmas.Chunks
import CharsetProof.Lemmas.Codec
import CharsetProof.Lemmas.EntryFacts
import CharsetProof.Lemmas.Single
import CharsetProof.Props.C13
import CharsetProof.Props.C13AllSizes
import CharsetProof.Props.C13Full
import CharsetProof.Props.Full2
open Charset
#print axioms C13_chaos_is_mess_ratio_full
#print axioms C13_chaos_is_mess_ratio_full_all_sizes
#print axioms detection_full_languages
#print axioms chaosOfText_full_eq
#print axioms meanRatio_single
#print axioms C13_chaos_of_text_all_sizes
#print axioms C13_chaos_of_text_current
#print axioms probeChunks_single
#print axioms nonEmpty_now
#print axioms supportedModelled
#print axioms hchars_now
#print axioms hchars_full
#print axioms codec_strict_le
#print axioms C13_normWindow_fit
#print axioms C13_window_irrelevant
#print axioms offsets_single
#print axioms whole_of_fits
#print axioms C13_chaos_of_text
#print axioms C13_same_text_same_chaos
#print axioms table_chars_le_bytes
#print axioms fromBytes_facts
