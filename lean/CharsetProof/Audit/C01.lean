import CharsetProof.Lemmas.Codec
import CharsetProof.Lemmas.EntryFacts
import CharsetProof.Lemmas.SortPerm
import CharsetProof.Lemmas.Table
import CharsetProof.Props.C01
import CharsetProof.Props.C01Ascii
import CharsetProof.Props.C07
import CharsetProof.Props.Full2
open Charset
#print axioms C01_decodes
#print axioms C01_decodes_small
#print axioms C01_decodes_current
#print axioms C01_ascii_fit_partial
#print axioms C01_ascii_fit_current
#print axioms C01_ascii_fit_full
#print axioms asciiLaw_now
#print axioms asciiTableOk
#print axioms lazyLaws_now
#print axioms drop_startIdx
#print axioms singleByteAreTables
#print axioms tableStrict_append
#print axioms fromBytes_facts
#print axioms marksMultiByte_now
#print axioms sortMatches_perm
