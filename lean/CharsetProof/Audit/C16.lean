import CharsetProof.Props.C15
import CharsetProof.Props.C16Multi
open Charset
#print axioms C16_multi_failure
#print axioms C16_multi_entries
#print axioms processAll_report_only
#print axioms C16_validation_first
#print axioms C16_validate_cases
#print axioms C16_missing_file
#print axioms C16_report_shape
#print axioms C16_single_entry
