import CharsetProof.Props.C15
import CharsetProof.Props.C15Multi
import CharsetProof.Props.C15Written
open Charset
#print axioms fsGet_fsPut
#print axioms processFile_effect
#print axioms C15_no_normalize_no_write
#print axioms C15_single_normalize
#print axioms C15_single_utf_or_none
#print axioms C15_replace_needs_force
#print axioms C15_replace_force
#print axioms C15_multi_normalize
#print axioms C15_multi_targets
#print axioms processAll_writes
#print axioms writeOfG_no_replace
#print axioms C15_multi_effect
#print axioms C15_multi_replace_force
#print axioms C15_written_is_strict_decode
#print axioms C15_written_roundtrip
