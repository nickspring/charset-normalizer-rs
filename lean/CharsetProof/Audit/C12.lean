import CharsetProof.Props.C12
import CharsetProof.Props.C12Nested
open Charset
#print axioms Nested.good_step
#print axioms Nested.C12_nested_safety
#print axioms Nested.C12_nested_results
#print axioms Nested.C12_nested_no_deadlock
#print axioms Nested.C12_nested_step_decreases
#print axioms Nested.C12_nested_finished_has_result
#print axioms C12_cached_calls_covered
#print axioms C12_cached_calls_acyclic
#print axioms good_init
#print axioms good_step
#print axioms C12_safety
#print axioms C12_results
#print axioms C12_no_deadlock
#print axioms C12_step_decreases
#print axioms C12_globals_covered
#print axioms C12_cached_inventory
