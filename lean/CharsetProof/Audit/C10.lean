import CharsetProof.Lemmas.Coh
import CharsetProof.Lemmas.F32
import CharsetProof.Lemmas.Master
import CharsetProof.Lemmas.Merge
import CharsetProof.Lemmas.Ranges
import CharsetProof.Lemmas.SortSmall
import CharsetProof.Lemmas.SortWinner
import CharsetProof.Props.C10
import CharsetProof.Props.C10Full
import CharsetProof.Props.C10Languages
import CharsetProof.Props.C10Share
import CharsetProof.Props.C10Targets
import CharsetProof.Props.Full2
open Charset
#print axioms targetLanguages_is_model
#print axioms C10_tied_language_full
#print axioms worldFull_coh_respects_include
#print axioms Coh.coherenceRatio_respects_include
#print axioms coherenceRatioModel_mem
#print axioms C10_unicode_ranges
#print axioms C10_unicode_ranges_union
#print axioms unicodeRangesOf_spec
#print axioms insertionSort_sorted
#print axioms C10_languages_current
#print axioms C10_languages_full
#print axioms detection_full_languages
#print axioms C10_tied_language
#print axioms C10_tied_table_now
#print axioms mergeModel_nodup
#print axioms mergeModel_mem
#print axioms sortUnstableSmall_perm
#print axioms C10_share
#print axioms append_distinct
#print axioms sameOutput_of_identical
#print axioms Fl.sub_self_finite
#print axioms C10_nodup
#print axioms C10_nodup_current
#print axioms C10_lookup
#print axioms C10_most_probable_head
#print axioms C10_languages
#print axioms allCands_append_perm
#print axioms fromBytes_results
