import CharsetProof.Lemmas.Codec
import CharsetProof.Props.C01
import CharsetProof.Props.C18
open Charset
#print axioms C18_alias_decodes_identically
#print axioms C18_aliases_same_kind
#print axioms same_codec_same_decode_supported
#print axioms C18_canonical
#print axioms C18_accepted_by_filters
#print axioms C18_lookup
#print axioms C18_lookup_finds
#print axioms C18_aliases_available
#print axioms C18_aliases_available_each
#print axioms C18_aliases_safe
#print axioms C18_aliases_safe_each
#print axioms same_codec_same_decode
#print axioms unresolvable_never_decodes
#print axioms marks_supported
#print axioms helper_resolves_reportable
#print axioms C01_decodes_current
