import CharsetProof.Lemmas.EntryFacts
import CharsetProof.Lemmas.Probe
import CharsetProof.Lemmas.SortPerm
import CharsetProof.Props.C03
import CharsetProof.Props.C07
open Charset
#print axioms C07_bom
#print axioms C07_bom_current
#print axioms marksMultiByte_now
#print axioms marksPrefixFree_now
#print axioms bomHere_iff
#print axioms fromBytes_facts
#print axioms sortMatches_perm
