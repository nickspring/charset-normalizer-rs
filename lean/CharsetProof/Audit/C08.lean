import CharsetProof.Lemmas.CmpSwap
import CharsetProof.Lemmas.Ranking
import CharsetProof.Lemmas.SortPerm
import CharsetProof.Lemmas.SortWinner
import CharsetProof.Props.C08
open Charset
#print axioms C08_preference_asymm
#print axioms C08_preferred_to_all_first
#print axioms C08_all_preferred_to_last
#print axioms Fl.abs_sub_comm
#print axioms C08_lt_iff_spec
#print axioms C08_get_best
#print axioms C08_winner_first
#print axioms C08_loser_last
#print axioms C08_winner_first_small
#print axioms C08_loser_last_small
#print axioms C08_append_resorts
#print axioms C08_append_winner
#print axioms C08_new_winner
#print axioms mergeInto_keys
#print axioms insertionSort_winner_first
#print axioms insertionSort_loser_last
#print axioms sortMatches_perm
#print axioms insertionSort_sortedAdj
#print axioms find_dominant
#print axioms winner_of_key
