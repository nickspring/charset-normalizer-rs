/-
  C10 for the fully modelled world `worldFull`: the hypothesis of C10_tied_language (the include-list law of
  coherence_ratio) is a theorem there.
-/
import CharsetProof.Props.C10Languages
import CharsetProof.Lemmas.Coh
import CharsetProof.Lemmas.CharsLeNow
namespace Charset

theorem worldFull_coh_respects_include (menv : Md.MdEnv) (cenv : Coh.CohEnv) (o : Oracle) :
    CohRespectsInclude (worldFull menv cenv o) nUnknown := by
  intro t thr langs r h hne hunk
  exact Coh.coherenceRatio_respects_include cenv _ _ _ _ t thr langs r (Except.ok.inj h) hne hunk

/-- **C10 (tied language), coherence detection modelled** — no hypothesis on the world left: for every Unicode
    environment, every non-empty input and all settings, a candidate whose encoding is tied to one language
    lists no other language -/
theorem C10_tied_language_full (menv : Md.MdEnv) (cenv : Coh.CohEnv) (o : Oracle)
    {b : Bytes} {s : Settings} {incl excl : List Name}
    (hincl : canonList ianaNow s.incl = .ok incl) (hexcl : canonList ianaNow s.excl = .ok excl)
    {ms : List (Match Name Name)} (hb : b ≠ [])
    (h : fromBytes (worldFull menv cenv o) tablesNow sortMatches b s = .ok (.ok ms))
    {m : Match Name Name} (hm : m ∈ ms) {c : Sub Name Name} (hc : c ∈ m.entries) {lang : Name}
    (htied : lookupName Gen.targetLanguages c.enc = some [lang]) (hlang : lang ≠ nUnknown) :
    ∀ l ∈ c.cohs.map (·.1), l = lang :=
  fromBytes_tied_language sortMatches_perm (fun _ => rfl) hincl hexcl hb h (worldFull_coh_respects_include menv cenv o)
    hm hc (by rw [worldFull_target]; exact worldNow_target o htied) hlang

end Charset
