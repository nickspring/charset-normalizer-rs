/-
  One statement for the fully modelled detection (every decoder, the mess detector, the coherence detector,
  the merge and the language table are Lean definitions; the only parameters left are the two Unicode
  environments): for every non-empty input, all settings with a usable number of steps and a threshold that
  is a number, the model returns – never faulting, never asking the implementation – either the documented
  error or a list of matches for which the clauses of C01, C04, C05, C07 and C10 proved elsewhere hold at once.
  Nothing here needs an argument of its own; the point is that no hypothesis about the world is left anywhere.
-/
import CharsetProof.Props.C02
import CharsetProof.Props.C01
import CharsetProof.Props.C05
import CharsetProof.Props.C07
import CharsetProof.Props.C10
import CharsetProof.Props.C04Chaos
namespace Charset

/-- **Detection, fully modelled, no hypothesis about the world** -/
theorem detection_full (menv : Md.MdEnv) (cenv : Coh.CohEnv) (o : Oracle) (b : Bytes) (s : Settings)
    (hb : b ≠ []) (hs : 1 ≤ s.steps) (hs2 : s.steps < 2 ^ 62) (hlen : b.length + 1 < 2 ^ 64)
    (hthr : s.thr.isNaN = false) :
    -- the documented error: an entry of a filter list that names no known encoding
    (∃ e, fromBytes (worldFull menv cenv o) tablesNow sortMatches b s = .ok (.error e) ∧
      ((∃ n, e = .badInclude n ∧ n ∈ s.incl ∧ tablesNow.ianaName n = none) ∨
       (∃ n, e = .badExclude n ∧ n ∈ s.excl ∧ tablesNow.ianaName n = none))) ∨
    -- or matches, and then
    (∃ ms incl excl, fromBytes (worldFull menv cenv o) tablesNow sortMatches b s = .ok (.ok ms) ∧
      canonList ianaNow s.incl = .ok incl ∧ canonList ianaNow s.excl = .ok excl ∧
      -- C01: every candidate hands back the input and exposes its strict decode
      (∀ m ∈ ms, ∀ c ∈ m.entries, c.raw = b ∧
        ∃ t, (worldFull menv cenv o).decode c.enc (stripMark tablesNow b c.enc) = .ok (some t) ∧ c.text = some t) ∧
      -- C05: every candidate passes the filters
      (∀ m ∈ ms, ∀ e ∈ m.cands, Filtered incl excl e) ∧
      -- C10: no encoding is named twice, every name is a supported one
      ((allCands ms).Nodup ∧ ∀ e ∈ allCands ms, e ∈ Gen.supported) ∧
      -- C07: UTF-16 only with its mark
      (∀ m ∈ ms, ∀ c ∈ m.entries, (c.enc = nUTF16LE ∨ c.enc = nUTF16BE) →
        ∃ mk, sigOf tablesNow.marks b = some (c.enc, mk)) ∧
      -- C04: chaos is a finite number in [0, threshold), or the result is the single last-resort candidate
      ((∀ m ∈ ms, ∀ c ∈ m.entries,
          0 ≤ c.chaos.key ∧ c.chaos.isNaN = false ∧ c.chaos.isFinite = true ∧ Fl.lt c.chaos s.thr = true) ∨
       (∃ fb, ms = [fb] ∧ fb.subs = [] ∧ fb.chaos = s.thr ∧ s.fallback = true ∧ fb.enc ∈ hintsOf tablesNow b s))) := by
  obtain ⟨r, hr⟩ := C02_full menv cenv o b s hs hlen
  cases r with
  | error e => exact Or.inl ⟨e, hr, C02_only_documented_error hr⟩
  | ok ms =>
    obtain ⟨incl, excl, hincl, hexcl⟩ := fromBytes_ok_canon hr
    refine Or.inr ⟨ms, incl, excl, hr, hincl, hexcl, ?_, ?_, ?_, ?_, ?_⟩
    · exact C01_decodes sortMatches_perm marksMultiByte_now (lazyLaws_full menv cenv o) hincl hexcl hb hr
    · exact C05_filters sortMatches_perm hincl hexcl hb hr
    · exact C10_nodup sortMatches_perm supported_nodup_now hb hr
    · intro m hm c hc
      exact ((C07_bom sortMatches_perm marksMultiByte_now hthr hincl hexcl hb hr) m hm c hc).2.2
    · exact C04_chaos_range_full menv cenv o hs2 hthr hincl hexcl hb hr

/-- the premises are satisfiable: one byte, the library's default settings (threshold 0.2, language threshold 0.1) -/
example :
    let s : Settings := ⟨5, 512, F32.ofBits 1045220557, F32.ofBits 1036831949, [], [], true, true, false⟩
    ([0x41] : Bytes) ≠ [] ∧ 1 ≤ s.steps ∧ s.steps < 2 ^ 62 ∧ ([0x41] : Bytes).length + 1 < 2 ^ 64 ∧ s.thr.isNaN = false := by
  decide +kernel
end Charset
