/-
  C06 — self-identifying content is believed exactly when it checks out.

  The second half of the file is about the declaration scanner (`any_specified_encoding`): what counts as "declared in the
  first 4 KiB".
-/
import CharsetProof.Lemmas.Master
import CharsetProof.Model.Concrete
import CharsetProof.Lemmas.Lookup
namespace Charset
variable {E L : Type} [DecidableEq E]

/-- **C06 (a)** — recursive characterisation of the probe order: the first hint, if it is a supported
    encoding, is probed first; the remaining order is the order for the remaining hints with that
    encoding removed. (Unrolled over the hints: declared, then BOM/signature, then ascii, then utf-8, each at its first
    occurrence, then every other supported encoding in table order.) -/
theorem C06_probeOrder_cons (supported : List E) (p : E) (ps : List E) :
    probeOrder supported (p :: ps) =
      if p ∈ supported then p :: (probeOrder supported ps).erase p else probeOrder supported ps := by
  show rotateFront p (probeOrder supported ps) = _
  simp only [rotateFront, List.contains_eq_mem, decide_eq_true_eq, mem_probeOrder_iff]

/-- the verdict of `e` probed alone is "accepted" and satisfies the exit test: chaos below 10 % for a
    hint, merely accepted for the encoding indicated by the BOM/signature -/
def Qualifies (W : World E L) (T : Tables E) (c : Ctx E) (e : E) : Prop :=
  ∃ m, probe W T c [] e = .ok (.accepted m) ∧ exitCond c e m.chaos = true

theorem not_qualifies {W : World E L} {T : Tables E} {c : Ctx E} {e : E} {v : Verdict E L}
    (hv : probe W T c [] e = .ok v) (hne : ∀ m, v = .accepted m → exitCond c e m.chaos = false) :
    ¬ Qualifies W T c e := by
  rintro ⟨m, hm, hex⟩
  rw [hv] at hm; cases hm
  rw [hne m rfl] at hex; cases hex

/-- only hints can qualify: the early exit is never triggered by an ordinary code page -/
theorem C06_only_hints_qualify {W : World E L} {T : Tables E} {b : Bytes} {s : Settings} {e : E}
    (h : Qualifies W T (ctxOf T b s) e) : e ∈ prioritized T b s.preemptive := by
  obtain ⟨m, _, hex⟩ := h
  rcases exitCond_iff.mp hex with h | h
  · exact h.2
  · exact mem_prioritized.mpr (.inr (.inl (bomHere_iff.mp h)))

/-- hints are never subject to the similarity skip: table hypothesis (kernel-checked for the dumped
    tables) for ascii, utf-8 and the marked encodings; the declared encoding is probed first, when no
    encoding has soft-failed yet -/
def HintsNotSimilarKeys (T : Tables E) : Prop :=
  ∀ e, (e = T.ascii ∨ e = T.utf8 ∨ e ∈ T.marks.map (·.1)) → ∀ f, T.similar e f = false

/-- outcome of the loop in terms of *who qualifies when probed alone* -/
inductive LoopVerdict (W : World E L) (T : Tables E) (c : Ctx E) (incl excl : List E) (order : List E) :
    Outcome E L → Prop
  | exit (pre : List E) (h : E) (post : List E) (x : Match E L) :
      order = pre ++ h :: post → allowed incl excl h = true → Qualifies W T c h →
      (∀ e ∈ pre, allowed incl excl e = true → ¬ Qualifies W T c e) → h ∈ x.cands →
      LoopVerdict W T c incl excl order (.exit x)
  | done (st : LoopState E L) :
      (∀ e ∈ order, allowed incl excl e = true → ¬ Qualifies W T c e) →
      LoopVerdict W T c incl excl order (.done st)

theorem C06_loop {W : World E L} {T : Tables E} {sort : Sorter E L}
    (hT : HintsNotSimilarKeys T) (hnd : T.supported.Nodup) {b : Bytes} {s : Settings} {incl excl : List E}
    {out : Outcome E L}
    (h : detectLoop W T sort (ctxOf T b s) incl excl (probeOrder T.supported (prioritized T b s.preemptive)) {} = .ok out) :
    LoopVerdict W T (ctxOf T b s) incl excl (probeOrder T.supported (prioritized T b s.preemptive)) out := by
  let c := ctxOf T b s
  let order := probeOrder T.supported (prioritized T b s.preemptive)
  have hprio : ∀ e ∈ prioritized T b s.preemptive,
      (s.preemptive = true ∧ T.declared b = some e) ∨ ∀ f, T.similar e f = false := by
    intro e he
    rcases mem_prioritized.mp he with hd | ⟨mk, hsig⟩ | ha | hu
    · exact .inl hd
    · exact .inr (hT e (.inr (.inr (List.mem_map.mpr ⟨_, (sigOf_some hsig).1, rfl⟩))))
    · exact .inr (hT e (.inl ha))
    · exact .inr (hT e (.inr (.inl hu)))
  have hdeclFirst : ∀ e done rest, s.preemptive = true ∧ T.declared b = some e → done ++ e :: rest = order →
      done = [] := by
    intro e done rest ⟨hpre, hd⟩ hall
    have hin : e ∈ T.supported := mem_probeOrder_iff.mp (show e ∈ order from hall ▸ by simp)
    have hp : prioritized T b s.preemptive = e :: (((sigOf T.marks b).map (·.1)).toList ++ [T.ascii, T.utf8]) := by
      simp [prioritized, hpre, hd]
    have hhead : order.head? = some e := by
      show (probeOrder T.supported (prioritized T b s.preemptive)).head? = some e
      rw [hp, C06_probeOrder_cons, if_pos hin]
      rfl
    have hordnd : order.Nodup := nodup_probeOrder hnd
    cases done with
    | nil => rfl
    | cons d ds =>
      rw [← hall] at hhead hordnd
      obtain rfl : d = e := by simpa using hhead
      exact absurd (List.mem_append_right ds (List.mem_cons_self ..)) (List.nodup_cons.mp hordnd).1
  -- invariant: nobody processed so far qualifies; it is kept whenever the encoding just processed does not
  let Inv : List E → Prop := fun done => ∀ e ∈ done, allowed incl excl e = true → ¬ Qualifies W T c e
  have step : ∀ {done e}, Inv done → (allowed incl excl e = true → ¬ Qualifies W T c e) → Inv (done ++ [e]) :=
    fun hinv he => List.forall_mem_append.mpr ⟨hinv, List.forall_mem_singleton.mpr he⟩
  refine detectLoop_rule_alone h (fun done _ => Inv done) (LoopVerdict W T c incl excl order) ?_ ?_ ?_
    (fun st hinv => .done st hinv) nofun
  · intro done st e rest hall hinv hcase
    refine step hinv fun hal hq => ?_
    rcases hcase with h0 | h1 | h1 | ⟨f, hf, hsim, _⟩
    · rw [hal] at h0; cases h0
    · exact not_qualifies h1 nofun hq
    · exact not_qualifies h1 nofun hq
    · -- skipped as similar to an earlier soft failure `f`, yet qualifying: as a hint, `e` is no key of the similarity
      -- table, unless it is the declared encoding, and that one is probed before anything else
      rcases hprio e (C06_only_hints_qualify hq) with hd | hns
      · rw [hdeclFirst e done rest hd hall] at hf; cases hf
      · rw [hns f] at hsim; cases hsim
  · intro done st e rest fb hall hinv hal hp
    exact step hinv fun _ => not_qualifies hp nofun
  · intro done st e rest m hall hinv hal hp
    refine ⟨fun hex => step hinv fun _ => not_qualifies hp ?_, fun hex x hx => ?_⟩
    · intro m' hm'; cases hm'; exact hex
    · exact .exit done e rest x hall.symm hal ⟨m, hp, hex⟩ hinv (findByCand_mem hx).2

/-- **C06 (b)+(c)** lifted to `from_bytes` — on non-empty input with valid filters the result is either
    the single match of the FIRST encoding in probe order (hints come first, in priority order) that
    passes the filters and qualifies when probed alone (chaos < 10 % for a hint, merely accepted for
    the BOM-indicated encoding), or – when no encoding qualifies – the complete, un-shortened result. -/
theorem C06_from_bytes {W : World E L} {T : Tables E} {sort : Sorter E L} (hperm : ∀ l, (sort l).Perm l)
    (hT : HintsNotSimilarKeys T) (hnd : T.supported.Nodup) {b : Bytes} {s : Settings} {incl excl : List E}
    (hincl : canonList T.ianaName s.incl = .ok incl) (hexcl : canonList T.ianaName s.excl = .ok excl)
    {ms : List (Match E L)} (hb : b ≠ []) (h : fromBytes W T sort b s = .ok (.ok ms)) :
    let order := probeOrder T.supported (prioritized T b s.preemptive)
    let c := ctxOf T b s
    (∃ pre hint post x, order = pre ++ hint :: post ∧ allowed incl excl hint = true ∧ Qualifies W T c hint ∧
        (∀ e ∈ pre, allowed incl excl e = true → ¬ Qualifies W T c e) ∧ hint ∈ x.cands ∧ ms = [x]) ∨
    ((∀ e ∈ order, allowed incl excl e = true → ¬ Qualifies W T c e) ∧
      ∃ st, detectLoop W T sort c incl excl order {} = .ok (.done st) ∧ ms = finish sort T.tooBig st) := by
  obtain ⟨out, hl, rfl⟩ := fromBytes_ok hincl hexcl hb h
  cases C06_loop hT hnd hl with
  | exit pre hint post x h1 h2 h3 h4 h5 => exact .inl ⟨pre, hint, post, x, h1, h2, h3, h4, h5, rfl⟩
  | done st h1 => exact .inr ⟨h1, st, hl, rfl⟩

/-- T1 obligation: ascii, utf-8 and the marked encodings are not keys of the similarity table -/
theorem hintsNotSimilarKeys_now : HintsNotSimilarKeys tablesNow := by
  have h : (([nASCII, nUTF8] ++ Gen.marks.map (·.1)).all (fun e => (lookupName Gen.similar e).isNone)) = true := by
    decide +kernel
  intro e he f
  have hmem : e ∈ [nASCII, nUTF8] ++ Gen.marks.map (·.1) := by
    rcases he with he | he | he
    · subst he; simp [tablesNow]
    · subst he; simp [tablesNow]
    · simp only [List.mem_append]; right; exact he
  have := List.all_eq_true.mp h e hmem
  show similarOf Gen.similar e f = false
  unfold similarOf
  cases hl : lookupName Gen.similar e with
  | none => rfl
  | some l => rw [hl] at this; cases this

theorem scanDeclared_is_label (iana : Name → Option Name) (fuel : Nat) (s : List Nat) :
    ∀ e, scanDeclared iana fuel s = some e → ∃ cap, iana cap = some e := by
  fun_induction scanDeclared iana fuel s <;> intro e h <;> simp only [*, reduceCtorEq] at h
  case case3 cap _ _ hcap _ => exact ⟨cap, hcap.trans h⟩
  case case4 ih => exact ih e h
  case case5 ih => exact ih e h

/-- **C06 (a declaration is a known label)**: a declared encoding is always the canonical form of some label; nothing
    is ever "declared" that the canonicaliser does not know.  (That the label is the one captured from the content is in
    the proof, `scanDeclared_is_label`, not in this statement.) -/
theorem C06_declared_is_label (iana : Name → Option Name) (zone : Nat) (b : Bytes) (e : Name)
    (h : declaredOf iana zone b = some e) : ∃ cap, iana cap = some e :=
  scanDeclared_is_label iana _ _ e h

/-- **C06 (only the first `zone` bytes count)**: content after the search zone (4096 bytes) never
    influences what is declared -/
theorem C06_declared_zone (iana : Name → Option Name) (zone : Nat) (x y : Bytes) (hx : zone ≤ x.length) :
    declaredOf iana zone (x ++ y) = declaredOf iana zone x := by
  unfold declaredOf
  rw [List.take_append_of_le_length hx]

/-- the scanner looks at ASCII bytes only: bytes ≥ 0x80 in the zone are skipped, not treated as separators -/
theorem C06_declared_ascii_only (iana : Name → Option Name) (zone : Nat) (b : Bytes) :
    declaredOf iana zone b = declaredOf iana zone ((b.take zone).filter (· < 128)) := by
  unfold declaredOf
  have h1 : ((b.take zone).filter (· < 128)).take zone = (b.take zone).filter (· < 128) := by
    apply List.take_of_length_le
    exact Nat.le_trans (List.length_filter_le _ _) (by simp [List.length_take]; omega)
  rw [h1, List.filter_filter]
  simp

/-- each keyword (`encoding`, `charset`, `coding`) begins with `e` (101) or `c` (99) -/
theorem matchHere_none_of_head {c : Nat} {tl : List Nat} (hc : c ≠ 101 ∧ c ≠ 99) : matchHere (c :: tl) = none := by
  unfold matchHere kwEncoding kwCharset kwCoding
  have h1 : ¬ (101 = c) := fun h => hc.1 h.symm
  have h2 : ¬ (99 = c) := fun h => hc.2 h.symm
  simp [List.isPrefixOf, h1, h2]

theorem scanDeclared_none_without_ce (iana : Name → Option Name) : ∀ (fuel : Nat) (s : List Nat),
    (∀ c ∈ s, c ≠ 101 ∧ c ≠ 99) → scanDeclared iana fuel s = none
  | 0, _, _ => rfl
  | fuel + 1, [], _ => rfl
  | fuel + 1, c :: tl, h => by
    unfold scanDeclared
    simp only [matchHere_none_of_head (h c List.mem_cons_self)]
    exact scanDeclared_none_without_ce iana fuel tl (fun x hx => h x (List.mem_cons_of_mem _ hx))

/-- non-vacuity on the current tables: the three keyword forms, quoting, a label alias, the zone edge -/
example : declaredOf ianaNow 4096 (nameOfStr "<meta charset=\"utf-8\">") = some (nameOfStr "utf-8") := by
  rw [nameOfStr_ofList, nameOfStr_ofList]
  decide +kernel
example : declaredOf ianaNow 4096 (nameOfStr "# -*- coding: latin1 -*-") = some (nameOfStr "windows-1252") := by
  rw [nameOfStr_ofList, nameOfStr_ofList]
  decide +kernel
example : declaredOf ianaNow 4096 (nameOfStr "<?xml version='1.0' encoding='KOI8-R'?>") = some (nameOfStr "koi8-r") := by
  rw [nameOfStr_ofList, nameOfStr_ofList]
  decide +kernel
example : declaredOf ianaNow 4096 (nameOfStr "charset=no-such-label then charset=big5") = some (nameOfStr "big5") := by
  rw [nameOfStr_ofList, nameOfStr_ofList]
  decide +kernel
example : declaredOf ianaNow 10 (nameOfStr "0123456789charset=utf-8") = none := by
  rw [nameOfStr_ofList]
  decide +kernel

end Charset
