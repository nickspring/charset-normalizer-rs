/-
  C12 for nested memoised calls over several caches (Model/ConcNested.lean): for every number of threads,
  every nesting of cached calls and EVERY schedule – safety (every activation returns the value of its own
  call, every thread ends with the value of its outermost call, all caches stay correct), mutual exclusion
  bookkeeping (a thread holds at most the mutex of its innermost activation), and progress (as long as a
  thread is unfinished some thread can step: no deadlock although several mutexes exist, because a thread
  never waits for a mutex while holding one).
-/
import CharsetProof.Model.ConcNested
import CharsetProof.Props.C12
set_option linter.unusedSectionVars false
namespace Charset
namespace Nested
variable {K V : Type} [DecidableEq K]

def TopOk (F : Funs K V) (fr : Frame K V) : Prop :=
  match fr.pc with
  | .computed v => v = F.val fr.c fr.k
  | .locked2 v => v = F.val fr.c fr.k
  | .body todo acc => ∃ done, F.inner fr.c fr.k = done ++ todo ∧ acc = done.map (fun p => F.val p.1 p.2)
  | _ => True

def Waiting (F : Funs K V) (parent : Frame K V) (child : Call K) : Prop :=
  match parent.pc with
  | .body todo acc =>
    ∃ done, F.inner parent.c parent.k = done ++ child :: todo ∧ acc = done.map (fun p => F.val p.1 p.2)
  | _ => False

def ChainOk (F : Funs K V) : List (Frame K V) → Prop
  | [] => True
  | [_] => True
  | fr :: parent :: rest => Waiting F parent (fr.c, fr.k) ∧ ChainOk F (parent :: rest)

structure ThreadOk (F : Funs K V) (t : Thread K V) : Prop where
  top : ∀ fr rest, t.stack = fr :: rest → TopOk F fr
  chain : ChainOk F t.stack
  bottom : ∀ fr, t.stack.getLast? = some fr → (fr.c, fr.k) = t.root
  result : ∀ v, t.result = some v → v = F.val t.root.1 t.root.2
  fin : t.stack = [] → t.result.isSome = true

/-- the mutex a thread holds: that of its innermost activation, if that activation is in a critical section -/
def topHolds (t : Thread K V) : Option Nat :=
  match t.stack with
  | fr :: _ => if holds fr.pc then some fr.c else none
  | [] => none

structure LocksOk (locks : Nat → Option Nat) (threads : List (Thread K V)) : Prop where
  holder : ∀ (c i : Nat), locks c = some i → ∃ t : Thread K V, threads[i]? = some t ∧ topHolds t = some c
  excl : ∀ (i : Nat) (t : Thread K V) (c : Nat), threads[i]? = some t → topHolds t = some c → locks c = some i

structure Good (F : Funs K V) (s : Sys K V) : Prop where
  cacheOk : ∀ c, CacheOk (F.val c) (s.caches c)
  threadsOk : ∀ (i : Nat) (t : Thread K V), s.threads[i]? = some t → ThreadOk F t
  locksOk : LocksOk s.locks s.threads

theorem LocksOk.owned {locks : Nat → Option Nat} {threads : List (Thread K V)} (h : LocksOk locks threads) :
    Owned (fun t c => topHolds t = some c) locks threads := ⟨h.holder, h.excl⟩

theorem topHolds_of {t : Thread K V} {fr : Frame K V} {rest : List (Frame K V)} {pc : FPC K V}
    (hst : t.stack = fr :: rest) (hpc : fr.pc = pc) : topHolds t = if holds pc then some fr.c else none := by
  unfold topHolds; rw [hst, ← hpc]

theorem LocksOk.update {locks : Nat → Option Nat} {threads : List (Thread K V)} {i : Nat} {t t' : Thread K V}
    (h : LocksOk locks threads) (hi : threads[i]? = some t) (h0 : topHolds t = none) (h1 : topHolds t' = none) :
    LocksOk locks (threads.set i t') :=
  have ho := h.owned.set (locks' := locks) (t' := t') hi (fun c => by simp [h0, h1]) (fun c hc => by simp [h1] at hc)
  ⟨ho.holder, ho.excl⟩

theorem LocksOk.acquire {locks : Nat → Option Nat} {threads : List (Thread K V)} {i c : Nat} {t t' : Thread K V}
    (h : LocksOk locks threads) (hi : threads[i]? = some t) (h0 : topHolds t = none) (hfree : locks c = none)
    (h1 : topHolds t' = some c) : LocksOk (setLock locks c (some i)) (threads.set i t') :=
  have ho := h.owned.set (locks' := setLock locks c (some i)) (t' := t') hi
    (fun c' => by simp [setLock, h0, h1, eq_comm]) (fun c' hc => by rw [h1] at hc; cases hc; exact .inr hfree)
  ⟨ho.holder, ho.excl⟩

theorem LocksOk.release {locks : Nat → Option Nat} {threads : List (Thread K V)} {i c : Nat} {t t' : Thread K V}
    (h : LocksOk locks threads) (hi : threads[i]? = some t) (h0 : topHolds t = some c) (h1 : topHolds t' = none) :
    LocksOk (setLock locks c none) (threads.set i t') :=
  have ho := h.owned.set (locks' := setLock locks c none) (t' := t') hi
    (fun c' => by simp [setLock, h0, h1, eq_comm]) (fun c' hc => by simp [h1] at hc)
  ⟨ho.holder, ho.excl⟩

/-! `ChainOk` and `ThreadOk.bottom` look at a frame only through the call `(c, k)` it stands for, so the innermost
  frame may be given any program counter. -/

theorem ChainOk.retop {F : Funs K V} {fr : Frame K V} {rest : List (Frame K V)} (pc : FPC K V)
    (h : ChainOk F (fr :: rest)) : ChainOk F (⟨fr.c, fr.k, pc⟩ :: rest) := by
  cases rest with
  | nil => trivial
  | cons p ps => exact h

theorem bottom_retop {root : Call K} {fr : Frame K V} {rest : List (Frame K V)} (pc : FPC K V)
    (h : ∀ x, (fr :: rest).getLast? = some x → (x.c, x.k) = root) :
    ∀ x, (⟨fr.c, fr.k, pc⟩ :: rest).getLast? = some x → (x.c, x.k) = root := by
  cases rest with
  | nil => rintro _ ⟨rfl⟩; exact h fr rfl
  | cons p ps => simpa only [List.getLast?_cons_cons] using h

/-- a thread may be given any stack that is right below its top (`fr :: rest`, usually its own stack or the tail of it),
    with a right program counter on top -/
theorem ThreadOk.restack {F : Funs K V} {t : Thread K V} {fr : Frame K V} {rest : List (Frame K V)} {pc : FPC K V}
    (h : ThreadOk F t) (hchain : ChainOk F (fr :: rest))
    (hbot : ∀ x, (fr :: rest).getLast? = some x → (x.c, x.k) = t.root) (htop : TopOk F ⟨fr.c, fr.k, pc⟩) :
    ThreadOk F { t with stack := ⟨fr.c, fr.k, pc⟩ :: rest } where
  top := by rintro _ _ ⟨rfl, _⟩; exact htop
  chain := hchain.retop pc
  bottom := bottom_retop pc hbot
  result := h.result
  fin := by intro he; cases he

theorem ThreadOk.retop {F : Funs K V} {t : Thread K V} {fr : Frame K V} {rest : List (Frame K V)} {pc : FPC K V}
    (h : ThreadOk F t) (hst : t.stack = fr :: rest) (htop : TopOk F ⟨fr.c, fr.k, pc⟩) :
    ThreadOk F { t with stack := ⟨fr.c, fr.k, pc⟩ :: rest } :=
  h.restack (hst ▸ h.chain) (hst ▸ h.bottom) htop

theorem ThreadOk.push {F : Funs K V} {t : Thread K V} {fr : Frame K V} {rest : List (Frame K V)} {pc : FPC K V}
    {call : Call K} (h : ThreadOk F t) (hst : t.stack = fr :: rest) (hw : Waiting F ⟨fr.c, fr.k, pc⟩ call) :
    ThreadOk F { t with stack := ⟨call.1, call.2, .start⟩ :: ⟨fr.c, fr.k, pc⟩ :: rest } :=
  h.restack (fr := ⟨call.1, call.2, .start⟩) ⟨hw, (hst ▸ h.chain).retop pc⟩
    (by simpa only [List.getLast?_cons_cons] using bottom_retop pc (hst ▸ h.bottom)) trivial

theorem Waiting.body {F : Funs K V} {p : Frame K V} {child : Call K} (h : Waiting F p child) :
    ∃ todo acc done, p.pc = .body todo acc ∧ F.inner p.c p.k = done ++ child :: todo ∧
      acc = done.map (fun q => F.val q.1 q.2) := by
  unfold Waiting at h
  split at h
  · obtain ⟨done, h1, h2⟩ := h; exact ⟨_, _, done, ‹_›, h1, h2⟩
  · exact h.elim

theorem threadOk_deliver {F : Funs K V} {t : Thread K V} {fr : Frame K V} {rest : List (Frame K V)} {v : V}
    (h : ThreadOk F t) (hst : t.stack = fr :: rest) (hv : v = F.val fr.c fr.k) :
    ThreadOk F (deliver v rest t) ∧ topHolds (deliver v rest t) = none := by
  have hchain := h.chain
  have hbot := h.bottom
  rw [hst] at hchain hbot
  cases rest with
  | nil =>
    refine ⟨{ top := nofun, chain := trivial, bottom := nofun, result := ?_, fin := fun _ => rfl }, rfl⟩
    rintro _ ⟨rfl⟩
    show v = F.val t.root.1 t.root.2
    rw [hv, ← hbot fr rfl]
  | cons p ps =>
    -- the caller `p` waits for exactly this call (`ChainOk`), so the value extends its list of results
    obtain ⟨todo, acc, done, hp, hin, hacc⟩ := hchain.1.body
    have htop : TopOk F ⟨p.c, p.k, .body todo (acc ++ [v])⟩ :=
      ⟨done ++ [(fr.c, fr.k)], by rw [hin]; simp, by rw [hacc, hv]; simp⟩
    simp only [deliver, hp]
    exact ⟨h.restack hchain.2 (by simpa only [List.getLast?_cons_cons] using hbot) htop, rfl⟩

theorem TopOk.of_pc {F : Funs K V} {fr : Frame K V} {pc : FPC K V} (h : TopOk F fr) (hpc : fr.pc = pc) :
    TopOk F ⟨fr.c, fr.k, pc⟩ := hpc ▸ h

theorem cacheOk_setCache {F : Funs K V} {caches : Nat → CacheEntries K V} (h : ∀ c, CacheOk (F.val c) (caches c))
    {c₀ : Nat} {x : CacheEntries K V} (hx : CacheOk (F.val c₀) x) : ∀ c, CacheOk (F.val c) (setCache caches c₀ x c) := by
  intro c
  unfold setCache
  split
  · subst ‹c = c₀›; exact hx
  · exact h c

theorem topHolds_cons (fr : Frame K V) (rest : List (Frame K V)) (t : Thread K V) :
    topHolds { t with stack := fr :: rest } = if holds fr.pc then some fr.c else none := rfl

/-- **C12 (nested, safety step)** — one atomic step of any thread preserves the invariant -/
theorem good_step (F : Funs K V) (ev : Nat → Evict K V) (s : Sys K V) (i : Nat) (h : Good F s) :
    Good F (stepThread F ev s i) := by
  -- where the thread is absent, has finished or waits for a mutex that is taken, nothing changes
  fun_cases stepThread F ev s i <;> try exact h
  next t hti fr rest hst _ hpc hfree =>              -- `start`, mutex free
    exact ⟨h.cacheOk, forall_getElem?_set h.threadsOk ((h.threadsOk i t hti).retop hst trivial),
      h.locksOk.acquire hti (topHolds_of hst hpc) (Option.isNone_iff_eq_none.mp hfree) rfl⟩
  next t hti fr rest hst hpc v hg =>                   -- `locked1`, hit
    obtain ⟨hok, hnh⟩ := threadOk_deliver (h.threadsOk i t hti) hst ((h.cacheOk fr.c).get hg)
    exact ⟨h.cacheOk, forall_getElem?_set h.threadsOk hok, h.locksOk.release hti (topHolds_of hst hpc) hnh⟩
  next t hti fr rest hst _ hpc _ =>                    -- `locked1`, miss
    exact ⟨h.cacheOk, forall_getElem?_set h.threadsOk ((h.threadsOk i t hti).retop hst ⟨[], by simp, rfl⟩),
      h.locksOk.release hti (topHolds_of hst hpc) rfl⟩
  next t hti fr rest hst call todo acc hpc _ =>        -- `body`, next nested call
    -- `TopOk` at `body (call :: todo) acc` and `Waiting … call` at `body todo acc` are the same proposition
    have hwait : Waiting F ⟨fr.c, fr.k, .body todo acc⟩ call := ((h.threadsOk i t hti).top fr rest hst).of_pc hpc
    exact ⟨h.cacheOk, forall_getElem?_set h.threadsOk ((h.threadsOk i t hti).push hst hwait),
      h.locksOk.update hti (topHolds_of hst hpc) rfl⟩
  next t hti fr rest hst _ acc hpc =>                  -- `body`, all results in: what it combines is the value by `F.val_eq`
    obtain ⟨done, hin, hacc⟩ := ((h.threadsOk i t hti).top fr rest hst).of_pc hpc
    have hval : F.combine fr.c fr.k acc = F.val fr.c fr.k := by rw [F.val_eq, hin, hacc]; simp
    exact ⟨h.cacheOk, forall_getElem?_set h.threadsOk ((h.threadsOk i t hti).retop hst hval),
      h.locksOk.update hti (topHolds_of hst hpc) rfl⟩
  next t hti fr rest hst _ v hpc hfree =>              -- `computed`, mutex free
    have htop := ((h.threadsOk i t hti).top fr rest hst).of_pc hpc
    exact ⟨h.cacheOk, forall_getElem?_set h.threadsOk ((h.threadsOk i t hti).retop hst htop),
      h.locksOk.acquire hti (topHolds_of hst hpc) (Option.isNone_iff_eq_none.mp hfree) rfl⟩
  next t hti fr rest hst v hpc =>                      -- `locked2`
    have htop := ((h.threadsOk i t hti).top fr rest hst).of_pc hpc
    obtain ⟨hok, hnh⟩ := threadOk_deliver (h.threadsOk i t hti) hst htop
    exact ⟨cacheOk_setCache h.cacheOk ((h.cacheOk _).insert _ htop), forall_getElem?_set h.threadsOk hok,
      h.locksOk.release hti (topHolds_of hst hpc) hnh⟩

theorem initSys_get {caches : Nat → CacheEntries K V} {calls : List (Call K)} {i : Nat} {t : Thread K V}
    (ht : (initSys caches calls).threads[i]? = some t) : ∃ c, t = ⟨c, [⟨c.1, c.2, .start⟩], none⟩ := by
  simp only [initSys, List.getElem?_map, Option.map_eq_some_iff] at ht
  obtain ⟨c, _, rfl⟩ := ht; exact ⟨c, rfl⟩

theorem good_init (F : Funs K V) (caches : Nat → CacheEntries K V) (hc : ∀ c, CacheOk (F.val c) (caches c))
    (calls : List (Call K)) : Good F (initSys caches calls) := by
  refine ⟨hc, ?_, ⟨?_, ?_⟩⟩
  · intro i t ht
    obtain ⟨c, rfl⟩ := initSys_get ht
    exact {
      top := by rintro _ _ ⟨rfl, _⟩; trivial
      chain := trivial
      bottom := by rintro _ ⟨rfl⟩; rfl
      result := nofun
      fin := nofun }
  · intro c i hi; cases hi
  · intro i t c ht hh
    obtain ⟨c', rfl⟩ := initSys_get ht
    cases hh

/-- **C12 (nested, safety)** — the invariant holds after every schedule -/
theorem C12_nested_safety (F : Funs K V) (ev : Nat → Evict K V) (sched : List Nat) (s : Sys K V) (h : Good F s) :
    Good F (runSchedule F ev sched s) := by
  induction sched generalizing s with
  | nil => exact h
  | cons i is ih => exact ih _ (good_step F ev s i h)

/-- **C12 (nested, results)** — started together on correct (cold or warm) caches, under every schedule and
    every eviction behaviour, a thread that has finished holds exactly the value of its own outermost call, and all
    caches stay correct.  (That a nested call which returned handed its own value to its caller is the invariant
    `ThreadOk` behind this, not part of the statement.) -/
theorem C12_nested_results (F : Funs K V) (ev : Nat → Evict K V) (caches : Nat → CacheEntries K V)
    (hc : ∀ c, CacheOk (F.val c) (caches c)) (calls : List (Call K)) (sched : List Nat) :
    let s := runSchedule F ev sched (initSys caches calls)
    (∀ (i : Nat) (t : Thread K V) (v : V), s.threads[i]? = some t → t.result = some v → v = F.val t.root.1 t.root.2) ∧
    (∀ c, CacheOk (F.val c) (s.caches c)) := by
  have hg := C12_nested_safety F ev sched _ (good_init F caches hc calls)
  exact ⟨fun i t v ht hv => (hg.threadsOk i t ht).result v hv, hg.cacheOk⟩

theorem enabled_of_topHolds {t : Thread K V} {c : Nat} {locks : Nat → Option Nat} (h : topHolds t = some c) :
    enabled locks t = true := by
  unfold topHolds at h
  unfold enabled
  cases hs : t.stack with
  | nil => rw [hs] at h; cases h
  | cons fr rest => rw [hs] at h; cases hp : fr.pc <;> simp_all [holds, wantsLock]

/-- **C12 (nested, no deadlock)** — although there are several mutexes, as long as some thread is
    unfinished some thread can take a step: a thread waits for a mutex only while holding none, and the
    holder of a mutex is always in a critical section it can leave on its own. -/
theorem C12_nested_no_deadlock (F : Funs K V) (s : Sys K V) (h : Good F s)
    (hunf : ∃ (i : Nat) (t : Thread K V), s.threads[i]? = some t ∧ t.stack ≠ []) :
    ∃ (j : Nat) (t : Thread K V), s.threads[j]? = some t ∧ enabled s.locks t = true := by
  obtain ⟨i, t, ht, hne⟩ := hunf
  cases hst : t.stack with
  | nil => exact absurd hst hne
  | cons fr rest =>
    cases hl : s.locks fr.c with
    | none => exact ⟨i, t, ht, by simp [enabled, hst, hl]⟩
    | some j =>
      -- if `t` is blocked it is by thread `j`, which is not
      obtain ⟨tj, htj, hh⟩ := h.locksOk.holder fr.c j hl
      exact ⟨j, tj, htj, enabled_of_topHolds hh⟩

theorem C12_nested_finished_has_result (F : Funs K V) (s : Sys K V) (h : Good F s) (i : Nat) (t : Thread K V)
    (ht : s.threads[i]? = some t) (hst : t.stack = []) : t.result = some (F.val t.root.1 t.root.2) := by
  have hT := h.threadsOk i t ht
  obtain ⟨v, hv⟩ := Option.isSome_iff_exists.mp (hT.fin hst)
  rw [hv, hT.result v hv]

def frameRank (F : Funs K V) (fr : Frame K V) : Nat :=
  match fr.pc with
  | .start => F.cost fr.c fr.k
  | .locked1 => F.cost fr.c fr.k - 1
  | .body todo _ => 3 + (todo.map (fun p => F.cost p.1 p.2 + 1)).sum
  | .computed _ => 2
  | .locked2 _ => 1

def threadRank (F : Funs K V) (t : Thread K V) : Nat := (t.stack.map (frameRank F)).sum

def totalRank (F : Funs K V) (s : Sys K V) : Nat := (s.threads.map (threadRank F)).sum

theorem totalRank_initSys (F : Funs K V) (caches : Nat → CacheEntries K V) (calls : List (Call K)) :
    totalRank F (initSys caches calls) = (calls.map (fun c => F.cost c.1 c.2)).sum := by
  simp [totalRank, threadRank, initSys, frameRank, Function.comp_def]

theorem threadRank_deliver (F : Funs K V) (v : V) (rest : List (Frame K V)) (t : Thread K V) :
    threadRank F (deliver v rest t) = (rest.map (frameRank F)).sum := by
  unfold deliver threadRank
  cases rest with
  | nil => rfl
  | cons p ps =>
    simp only
    cases hp : p.pc <;> simp [frameRank, hp]

/-- **C12 (nested, progress)** — every enabled step strictly decreases the total rank, which is finite (`cost` of the
    outermost calls).  Together with `C12_nested_no_deadlock` this is what rules out livelock; that every maximal schedule
    is finite is stated for a single thread only (`solo_finishes` in Props/C11Nested.lean). -/
theorem C12_nested_step_decreases (F : Funs K V) (ev : Nat → Evict K V) (s : Sys K V) (i : Nat) (t : Thread K V)
    (ht : s.threads[i]? = some t) (hen : enabled s.locks t = true) :
    totalRank F (stepThread F ev s i) < totalRank F s := by
  unfold stepThread
  simp only [ht]
  cases hst : t.stack with
  | nil => simp [enabled, hst] at hen
  | cons fr rest =>
    simp only
    -- a step puts frames of smaller total rank in the place of the innermost one (none, when the activation returns)
    have key : ∀ t' : Thread K V, threadRank F t' < frameRank F fr + (rest.map (frameRank F)).sum →
        ((s.threads.set i t').map (threadRank F)).sum < (s.threads.map (threadRank F)).sum :=
      fun t' hlt => sum_map_set_lt (threadRank F) ht (by simpa [threadRank, hst] using hlt)
    have hc6 : 6 ≤ F.cost fr.c fr.k := by rw [F.cost_eq]; omega
    cases hpc : fr.pc
    case start | computed =>
      have hfree : (s.locks fr.c).isNone = true := by simpa [enabled, hst, wantsLock, hpc] using hen
      simp only [hfree, ↓reduceIte]
      refine key _ ?_
      simp only [threadRank, List.map_cons, List.sum_cons, frameRank, hpc]
      omega
    case locked1 =>
      cases cacheGet (s.caches fr.c) fr.k
      · -- miss: the body's rank is `cost - 3`
        refine key _ ?_
        simp only [threadRank, List.map_cons, List.sum_cons, frameRank, hpc]
        rw [F.cost_eq]
        omega
      · refine key _ ?_
        rw [threadRank_deliver]
        simp only [frameRank, hpc]
        omega
    case body todo acc =>
      cases todo <;> refine key _ ?_
      all_goals
        simp only [threadRank, List.map_cons, List.sum_cons, frameRank, hpc, List.map_nil, List.sum_nil]
        omega
    case locked2 =>
      refine key _ ?_
      rw [threadRank_deliver]
      simp only [frameRank, hpc]
      omega

theorem sum_map_seven (k : List Nat) : (k.map (fun _ => 7)).sum = 7 * k.length := by
  rw [List.map_const', List.sum_replicate_nat, Nat.mul_comm]

/-- non-vacuity: the shape of the crate is an instance. Cache 0: per-character classification (no nested calls);
    cache 1: a text, whose body classifies every character through cache 0 and sums; keys are code-point lists -/
def demoFuns (g : Nat → Nat) : Funs (List Nat) Nat where
  inner c k := if c = 1 then k.map (fun ch => (0, [ch])) else []
  combine c k rs := if c = 1 then rs.sum else g (k.headD 0)
  val c k := if c = 1 then (k.map g).sum else g (k.headD 0)
  val_eq c k := by
    by_cases hc : c = 1
    · simp [hc, List.map_map, Function.comp_def]
    · simp [hc]
  cost c k := if c = 1 then 6 + 7 * k.length else 6
  cost_eq c k := by
    by_cases hc : c = 1
    · simp only [hc, ↓reduceIte, List.map_map, Function.comp_def]
      have : (k.map (fun ch : Nat => (if (0 : Nat) = 1 then 6 + 7 * [ch].length else 6) + 1)) = k.map (fun _ => 7) := by
        apply List.map_congr_left; intro ch _; simp
      rw [this, sum_map_seven]
    · simp [hc]

example :
    let s := runSchedule (demoFuns (· * 2)) (fun _ => ⟨id, fun _ _ h => h⟩)
      ((List.range 60).flatMap (fun _ => [0, 1])) (initSys (fun _ => []) [(1, [3, 4]), (1, [4, 5])])
    s.threads.map (·.result) = [some 14, some 18] := by decide +kernel

end Nested

/-- **T2 obligation for the nested model** — which memoised functions the body of each memoised function
    can reach (through plain functions; extracted from the current source, same-named functions merged, so an
    over-approximation) is the reviewed graph -/
theorem C12_cached_calls_covered : (Inv.cachedCalls == Covered.cachedCalls) = true := by decide +kernel

/-- a ranking of the memoised functions under which every nested memoised call goes strictly down -/
def cachedLevel (n : Name) : Nat :=
  if n = nameOfStr "new_mess_detector_character" then 0 else 1

def cachedCallsAcyclicB : Bool :=
  Covered.cachedCalls.all (fun e => e.2.all (fun callee => decide (cachedLevel callee < cachedLevel e.1)))

/-- the reviewed graph of memoised calls is acyclic: the text-level caches (`mess_ratio`, `coherence_ratio`, `encoding_languages`)
    reach only the per-character cache, which reaches none.  This is what makes the recursion equations of
    `Nested.Funs` (`val_eq`, `cost_eq`) solvable, i.e. the nested model's hypotheses satisfiable for the crate. -/
theorem C12_cached_calls_acyclic : cachedCallsAcyclicB = true := by decide +kernel

example : Covered.cachedCalls.length = 4 := by decide +kernel

end Charset
