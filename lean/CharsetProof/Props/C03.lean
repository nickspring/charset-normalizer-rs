/-
  C03 — detection is deterministic: same input and settings give the same answer.

  In the model `fromBytes` is a *function* of (world, tables, bytes, settings): determinism of the model
  is `rfl`. What has to be shown is that the implementation has no hidden input besides those – i.e.
  that no observable value depends on hash-map iteration order (which changes per launch and per map
  instance). That is (a) the T2(b) obligation below: every `HashMap`/`HashSet` site of the current
  source is one of the reviewed, order-insensitive sites listed in `Covered.lean`; (b) order
  independence theorems for the sites that iterate (`sigOf_perm`); (c) the T3 check that K freshly
  launched processes and the cache-free Lean model agree bit for bit.

  Order independence of the hash-ordered collections that are sorted before use (`C03_sorted_names_order_free`):
  `range_scan` fills a `HashSet<String>` (iteration order changes per launch), `unicode_ranges()` collects it
  into a vector and sorts; `encoding_unicode_range` iterates a `HashMap` and sorts the names that pass a
  threshold.  The theorems say: whatever order the hash collection yields its (distinct) elements in, and
  whatever correct sort is applied, the result is one and the same list – the one the model computes.
-/
import CharsetProof.Model.Concrete
import CharsetProof.Generated.Inventory
import CharsetProof.Covered
import CharsetProof.Lemmas.Ranges
set_option linter.unusedSectionVars false
namespace Charset
variable {E L : Type} [DecidableEq E]

/-- determinism of the model: equal inputs, equal outputs (there is nothing else it could read) -/
theorem C03_model_is_function (W : World E L) (T : Tables E) (sort : Sorter E L) (b : Bytes) (s : Settings)
    (r₁ r₂ : M (Except Err (List (Match E L))))
    (h₁ : fromBytes W T sort b s = r₁) (h₂ : fromBytes W T sort b s = r₂) : r₁ = r₂ := by
  rw [← h₁, ← h₂]

def PrefixFree (marks : List (E × Bytes)) : Prop :=
  ∀ a ∈ marks, ∀ b ∈ marks, a ≠ b → ¬ (a.2.isPrefixOf b.2 = true)

theorem find?_perm_of_unique {α : Type} {p : α → Bool} {l l' : List α} (hp : l.Perm l')
    (huniq : ∀ x ∈ l, ∀ y ∈ l, p x = true → p y = true → x = y) : l'.find? p = l.find? p := by
  cases h1 : l.find? p with
  | none => exact List.find?_eq_none.mpr fun x hx => List.find?_eq_none.mp h1 x (hp.mem_iff.mpr hx)
  | some x =>
    have hx := List.mem_of_find?_eq_some h1
    cases h2 : l'.find? p with
    | none => exact absurd (List.find?_some h1) (List.find?_eq_none.mp h2 x (hp.mem_iff.mp hx))
    | some y =>
      rw [huniq y (hp.mem_iff.mpr (List.mem_of_find?_eq_some h2)) x hx (List.find?_some h2) (List.find?_some h1)]

/-- **C03 (BOM lookup is order independent)** — `identify_sig_or_bom` iterates a hash map and takes the
    first mark the input starts with; for a prefix-free mark table at most one mark matches, so every
    iteration order gives the same answer -/
theorem sigOf_perm {marks marks' : List (E × Bytes)} [DecidableEq (E × Bytes)] (hp : marks.Perm marks')
    (hpf : PrefixFree marks) (b : Bytes) : sigOf marks' b = sigOf marks b := by
  refine find?_perm_of_unique hp fun x hx y hy h1 h2 => Decidable.byContradiction fun hne => ?_
  -- two marks the input starts with: the shorter is a prefix of the longer
  unfold startsWith at h1 h2
  rw [List.isPrefixOf_iff_prefix] at h1 h2
  rcases Nat.le_total x.2.length y.2.length with hl | hl
  · exact hpf x hx y hy hne (List.isPrefixOf_iff_prefix.mpr (List.prefix_of_prefix_length_le h1 h2 hl))
  · exact hpf y hy x hx (fun h => hne h.symm) (List.isPrefixOf_iff_prefix.mpr (List.prefix_of_prefix_length_le h2 h1 hl))

/-- T1 obligation: no mark of `ENCODING_MARKS` is a prefix of another one -/
theorem marksPrefixFree_now :
    (Gen.marks.all (fun a => Gen.marks.all (fun b => a == b || !(a.2.isPrefixOf b.2)))) = true := by
  decide +kernel

theorem marks_prefixFree_now : PrefixFree Gen.marks := by
  intro a ha b hb hne
  have := List.all_eq_true.mp (List.all_eq_true.mp marksPrefixFree_now a ha) b hb
  simp only [Bool.or_eq_true, beq_iff_eq, Bool.not_eq_eq_eq_not, Bool.not_true] at this
  rcases this with h1 | h1
  · exact absurd h1 hne
  · simp [h1]

/-- **T2(b) obligation** — every `HashMap`/`HashSet`/set-iteration site found in the current source is
    one of the reviewed sites (all of them: construction of static tables, membership tests, counts,
    set intersections tested with `any`, or collections that are sorted by a total key before use).
    A new or changed site (e.g. iterating a map to build an ordered result) fails this check. -/
theorem C03_hash_sites_covered : (Inv.hashSites == Covered.hashSites) = true := by decide +kernel

/-- non-vacuity: the mark table has four entries, the obligation is not about an empty list -/
example : Gen.marks.length = 4 ∧ Covered.hashSites.length ≥ 20 := by decide +kernel

/-- the names `encoding_unicode_range` keeps (a `HashMap` iterated, filtered, sorted):
    any iteration order of the distinct keys, any correct sort – one result -/
theorem C03_sorted_names_order_free (kept scan sorted : List Name) (hnd : kept.Nodup)
    (hscan : scan.Perm kept) (hperm : sorted.Perm scan) (hsorted : sorted.Pairwise (fun a b => ¬ b < a)) :
    sorted = insertionSort nameLt kept :=
  ((hperm.trans hscan).trans (insertionSort_perm nameLt kept).symm).eq_of_pairwise
    (fun _ _ _ _ hab hba => List.le_antisymm hab hba) hsorted (insertionSort_nameLt_sorted kept)

/-- **C03 (`unicode_ranges()` does not depend on the hash order nor on the sort)**: let `scan` be the
    elements of the `HashSet` built by `range_scan` in *any* iteration order (a permutation of the model's
    duplicate-free list) and `sorted` the result of *any* correct sort of it (a permutation that is
    non-decreasing in the string order).  Then `sorted` is the list the model computes. -/
theorem C03_unicode_ranges_order_free (tbl : List (Name × Nat × Nat)) (t : Option Text)
    (scan sorted : List Name) (hscan : scan.Perm (rangeScan tbl (t.getD [])))
    (hperm : sorted.Perm scan) (hsorted : sorted.Pairwise (fun a b => ¬ b < a)) :
    sorted = unicodeRangesOf tbl t :=
  C03_sorted_names_order_free _ scan sorted (nodup_dedup _) hscan hperm hsorted

/-- the filter `encoding_unicode_range` applies commutes with any reordering of the map's keys -/
theorem filter_perm_of_perm {p : Name → Bool} {keys keys' : List Name} (h : keys'.Perm keys) :
    (keys'.filter p).Perm (keys.filter p) := h.filter p

/-- non-vacuity: a reversed scan order sorts to the same list -/
example : insertionSort nameLt [nameOfStr "Latin-1 Supplement", nameOfStr "Basic Latin"] =
    insertionSort nameLt [nameOfStr "Basic Latin", nameOfStr "Latin-1 Supplement"] := by decide +kernel

end Charset
