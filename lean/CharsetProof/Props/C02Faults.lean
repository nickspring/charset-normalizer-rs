/-
  C02 for the mess detector and for the retry loop of `decode` (utils.rs): none of the `unwrap()`s of md/plugins.rs,
  nor the `%` / `-` of the early-calculation test in md.rs, nor the slice and the subtractions of the retry loop can fail.
  Once its guards are discharged an instrumented function differs from the plain one only by where `.ok`
  stands: `← apply_ite Except.ok` moves it out of the conditionals.
-/
import CharsetProof.Model.MdFault
import CharsetProof.Model.DecodeFault
import CharsetProof.Lemmas.CharsLe
namespace Charset
namespace Md

theorem P1.changedF_eq (s : P1) (c : CharInfo) : P1.changedF s c = .ok (s.last != some c.cp) := by
  cases h : s.last with
  | none => simp only [P1.changedF, h]; rfl
  | some l =>
    simp only [P1.changedF, h, unwrapF, Option.isNone_some, Bool.false_eq_true, ↓reduceIte, bne, Option.some_beq_some,
      BEq.comm (a := l)]

theorem P1.feedF_eq (s : P1) (c : CharInfo) : P1.feedF s c = .ok (P1.feed s c) := by
  simp only [P1.feedF, P1.feed, P1.changedF_eq]

theorem P4.feedF_eq (env : MdEnv) (s : P4) (c : CharInfo) : P4.feedF env s c = .ok (P4.feed env s c) := by
  cases h : s.last <;> simp only [P4.feedF, P4.feed, h, unwrapF, Option.isNone_none, Option.isNone_some,
    ↓reduceIte, Bool.false_eq_true, ← apply_ite Except.ok]

/-- plugins.rs:144-162: the three `unwrap`s sit behind `last.is_some() && …` -/
theorem P5.guardF_some (n k : Nat) (c l : CharInfo) :
    P5.guardF { count := n, successive := k, last := some l } c = .ok (c.is ACCENTUATED && l.is ACCENTUATED) := by
  cases hc : c.is ACCENTUATED <;> simp only [P5.guardF, hc, unwrapF, Option.isSome_some, Bool.and_self, Bool.and_false,
    Bool.true_and, Bool.false_and, Bool.false_eq_true, ↓reduceIte]

theorem P5.upperF_some (n k : Nat) (c l : CharInfo) :
    P5.upperF { count := n, successive := k, last := some l } c = .ok (c.is UPPERCASE && l.is UPPERCASE) := by
  cases hc : c.is UPPERCASE <;> simp only [P5.upperF, hc, unwrapF, Bool.true_and, Bool.false_and, Bool.false_eq_true,
    ↓reduceIte]

theorem P5.feedF_eq (s : P5) (c : CharInfo) : P5.feedF s c = .ok (P5.feed s c) := by
  obtain ⟨n, k, last⟩ := s
  cases last with
  | none => rfl
  | some l =>
    simp only [P5.feedF, P5.feed, P5.guardF_some, P5.upperF_some, unwrapF]
    cases c.is ACCENTUATED && l.is ACCENTUATED <;> rfl

theorem P6.shortF_eq (s : P6) : P6.shortF s = .ok (P6.short s) := by
  unfold P6.shortF P6.short
  extract_lets n s'
  have hb : s'.buffer = s.buffer := by simp only [s', apply_ite P6.buffer, ite_self]
  split
  · next h4 =>
    cases hl : s'.buffer.getLast? with
    | none =>
      -- plugins.rs:282: with four characters buffered `last()` is `Some`
      rw [List.getLast?_eq_none_iff, hb] at hl
      rw [show n = 0 from congrArg List.length hl] at h4
      exact absurd h4 (by decide)
    | some l => simp only [unwrapF, ← apply_ite Except.ok]
  · rfl

theorem P6.endWordF_eq (s : P6) : P6.endWordF s = .ok (P6.endWord s) := by
  simp only [P6.endWordF, P6.endWord, P6.shortF_eq]

theorem P6.feedF_eq (s : P6) (c : CharInfo) : P6.feedF s c = .ok (P6.feed s c) := by
  simp only [P6.feedF, P6.feed, P6.endWordF_eq, ← apply_ite Except.ok]

theorem Dets.feedF_eq (env : MdEnv) (d : Dets) (c : CharInfo) : Dets.feedF env d c = .ok (Dets.feed env d c) := by
  simp only [Dets.feedF, Dets.feed, P1.feedF_eq, P4.feedF_eq, P5.feedF_eq, P6.feedF_eq, ← apply_ite Except.ok]

theorem period_pos (n : Nat) : 0 < period n := by
  unfold period; split
  · decide
  · split <;> decide

theorem checkpointF_eq (idx : Nat) {p : Nat} (hp : 0 < p) : checkpointF idx p = .ok (idx % p == p - 1) := by
  simp only [checkpointF, modF, subF, if_neg (Nat.ne_of_gt hp), if_pos (Nat.succ_le_of_lt hp)]

theorem loopF_eq {env : MdEnv} {p : Nat} (hp : 0 < p) {thr : F32} {d : Dets} {idx : Nat} {cs : List Nat} :
    loopF env p thr d idx cs = .ok (loop env p thr d idx cs) := by
  induction cs generalizing d idx with
  | nil => rfl
  | cons c cs ih => simp only [loopF, loop, Dets.feedF_eq, checkpointF_eq idx hp, beq_iff_eq, ih, ← apply_ite Except.ok]

/-- **C02 (mess detector is total)**: with every `unwrap()`, `%` and unsigned `-` of md.rs / md/plugins.rs
    modelled as an operation that can fail, `mess_ratio` never fails and returns exactly what the plain
    model computes – for every Unicode environment, every text (any length, any characters), every threshold. -/
theorem C02_mess_ratio_total (env : MdEnv) (t : Text) (thr : F32) :
    messRatioF env t thr = .ok (messRatio env t thr) :=
  loopF_eq (period_pos _)

/-- the instrumentation is not vacuous: each guarded operation does fail when its guard is removed -/
example : unwrapF 43 (none : Option Nat) = .error (.unwrapNone 43) := rfl
example : checkpointF 5 0 = .error (.divZero 57) := rfl
example : (P6.shortF { buffer := [] } = .ok { buffer := [] }) ∧
    unwrapF 282 ([] : List CharInfo).getLast? = .error (.unwrapNone 282) := ⟨rfl, rfl⟩

end Md
open Md

theorem retryStopF_eq {len b e : Nat} (hbe : b ≤ e) (hel : e ≤ len) :
    retryStopF len b e = .ok (decide (e - b < 1 ∨ 3 < b ∨ 3 < len - e)) := by
  unfold retryStopF subF
  simp only [hbe, hel, ↓reduceIte]
  -- `a || b || c`, the last operand evaluated only when needed
  by_cases h : e - b < 1 ∨ 3 < b
  · rw [if_pos h, decide_eq_true (or_assoc.mp (Or.inl h))]
  · rw [if_neg h]
    simp only [← or_assoc, h, false_or]

/-- **C02 (decode helper, chunk mode)**: with the slice and the three unsigned subtractions of the retry
    loop modelled as operations that can fail, the loop never fails and returns what the plain model
    returns, for every strict decoder that accepts the empty input (all modelled codecs do:
    `codec_strict_nil`), every input and every number of rounds – the invariant is
    `begin ≤ end ≤ len`, and `begin < end` whenever the decoder reported an error. -/
theorem chunkRetryF_eq (strict : Bytes → Except ErrKind Text) (hnil : ∃ t, strict [] = .ok t) (input : Bytes) :
    ∀ (fuel b e : Nat), b ≤ e → e ≤ input.length →
      chunkRetryF strict input fuel b e = .ok (chunkRetry strict input fuel b e) := by
  intro fuel
  induction fuel with
  | zero =>
    intro b e hbe hel
    simp only [chunkRetryF, chunkRetry, sliceFE, hbe, hel, and_self, ↓reduceIte]
  | succ n ih =>
    intro b e hbe hel
    simp only [chunkRetryF, chunkRetry, sliceFE, hbe, hel, and_self, ↓reduceIte]
    cases hs : strict ((input.drop b).take (e - b)) with
    | ok t => rfl
    | error k =>
      -- an error means the slice was not empty, so either offset can move by one
      have hlt : b < e := by
        refine Nat.lt_of_le_of_ne hbe fun hz => ?_
        obtain ⟨t, ht⟩ := hnil
        rw [hz, Nat.sub_self, List.take_zero, ht] at hs
        cases hs
      have he : (if k = .incomplete then subF 244 e 1 else .ok e) = .ok (if k = .incomplete then e - 1 else e) := by
        rw [subF, if_pos (Nat.one_le_of_lt hlt), ← apply_ite Except.ok]
      have hbe' : (if k = .invalid then b + 1 else b) ≤ (if k = .incomplete then e - 1 else e) := by
        cases k <;> simp only [reduceCtorEq, ↓reduceIte] <;> omega
      have hel' : (if k = .incomplete then e - 1 else e) ≤ input.length := by
        split
        · exact Nat.le_trans (Nat.sub_le _ _) hel
        · exact hel
      simp only []
      generalize (if k = .invalid then b + 1 else b) = b' at hbe' ⊢
      generalize (if k = .incomplete then e - 1 else e) = e' at he hbe' hel' ⊢
      simp only [he, retryStopF_eq hbe' hel', ih _ _ hbe' hel']
      by_cases hstop : e' - b' < 1 ∨ 3 < b' ∨ 3 < input.length - e'
      · rw [decide_eq_true hstop, if_pos hstop]
      · rw [decide_eq_false hstop, if_neg hstop]

/-- the chunk-mode helper on a whole input, as `decodeStrict` calls it -/
theorem C02_chunk_retry_total (c : Codec) (st : Bytes → Except ErrKind Text) (h : c.strict = some st) (input : Bytes) :
    chunkRetryF st input 16 0 input.length = .ok (chunkRetry st input 16 0 input.length) :=
  chunkRetryF_eq st ⟨[], codec_strict_nil h⟩ input 16 0 input.length (Nat.zero_le _) (Nat.le_refl _)

/-- non-vacuity: a decoder that rejects the empty input as incomplete makes `end_offset -= 1` underflow -/
example : chunkRetryF (fun _ => .error .incomplete) [] 16 0 0 = .error (.overflow 244) := rfl

end Charset
