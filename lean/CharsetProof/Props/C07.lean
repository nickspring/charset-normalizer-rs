/-
  C07 — BOM/signature flag is truthful; UTF-16 only with its BOM.
-/
import CharsetProof.Lemmas.EntryFacts
import CharsetProof.Lemmas.SortPerm
import CharsetProof.Model.Concrete
namespace Charset
variable {E L : Type} [DecidableEq E]

/-- **C07.**  For every world/tables in which the marked encodings are multi-byte (true of the
    current tables, `marksMultiByte_now`), on non-empty input and with a threshold that is a number, for every
    candidate entry `c` (main or alternative) of every returned match ("starts with the mark of `e`" is
    `sigOf T.marks b = some (e, _)`: the mark `identify_sig_or_bom` finds is that of `e`):
    * (flag ⇒ mark) if `c.bom` then the input starts with the mark of `c.enc`, and the exposed text is
      the strict decode of the bytes *after* the mark;
    * (mark ⇒ flag, regular matches) if the input starts with the mark of `c.enc` and the match is
      regular (`chaos < threshold`), the flag is set;
    * UTF-16LE/BE are candidates only when the input starts with their BOM. -/
theorem C07_bom {W : World E L} {T : Tables E} {sort : Sorter E L}
    (hperm : ∀ l, (sort l).Perm l) (hmb : ∀ em ∈ T.marks, T.isMultiByte em.1 = true)
    {b : Bytes} {s : Settings} {incl excl : List E} (hthr : s.thr.isNaN = false)
    (hincl : canonList T.ianaName s.incl = .ok incl) (hexcl : canonList T.ianaName s.excl = .ok excl)
    {ms : List (Match E L)} (hb : b ≠ []) (h : fromBytes W T sort b s = .ok (.ok ms)) :
    ∀ m ∈ ms, ∀ c ∈ m.entries,
      (c.bom = true → ∃ mk t, sigOf T.marks b = some (c.enc, mk) ∧ mk.isPrefixOf b = true ∧
          W.decode c.enc (b.drop mk.length) = .ok (some t) ∧ c.text = some t) ∧
      (Fl.ge c.chaos s.thr = false → (∃ mk, sigOf T.marks b = some (c.enc, mk)) → c.bom = true) ∧
      ((c.enc = T.utf16le ∨ c.enc = T.utf16be) → ∃ mk, sigOf T.marks b = some (c.enc, mk)) := by
  intro m hm c hc
  refine ⟨fun hbom => ?_, fun hge hsig => ?_, fun he => (bomHere_iff (s := s)).mp ?_⟩
  · have f := fromBytes_entry_common hperm hincl hexcl hb h hm hc
    obtain ⟨mk, hsig⟩ := bomHere_iff.mp (f.bom hbom)
    obtain ⟨hmem, hpre⟩ := sigOf_some hsig
    -- a marked encoding is multi-byte, hence decoded in full
    obtain ⟨t0, hdec, htext, _⟩ := f.text.1 (lazyOf_ctxOf_false (Or.inr (hmb _ hmem)))
    rw [startIdx_of_sig hsig] at hdec
    exact ⟨mk, t0, hsig, hpre, hdec, htext⟩
  · rw [(fromBytes_entry_regular hperm hincl hexcl hthr hb h hm hc hge).bom]
    exact bomHere_iff.mpr hsig
  · have hn := (fromBytes_entry_common hperm hincl hexcl hb h hm hc).needsBom
    exact (needsBomCond_eq_false_iff.mp hn).resolve_right fun h => he.elim h.1 h.2

/-- T1 obligation: every encoding that has a mark is multi-byte (hence never decoded lazily) -/
theorem marksMultiByte_now : ∀ em ∈ tablesNow.marks, tablesNow.isMultiByte em.1 = true := by
  have h : (tablesNow.marks.all (fun em => tablesNow.isMultiByte em.1)) = true := by decide +kernel
  intro em hem
  exact List.all_eq_true.mp h em hem

theorem C07_bom_current (o : Oracle) {b : Bytes} {s : Settings} {incl excl : List Name}
    (hthr : s.thr.isNaN = false)
    (hincl : canonList ianaNow s.incl = .ok incl) (hexcl : canonList ianaNow s.excl = .ok excl)
    {ms : List (Match Name Name)} (hb : b ≠ [])
    (h : fromBytes (worldNow o) tablesNow sortMatches b s = .ok (.ok ms)) :
    ∀ m ∈ ms, ∀ c ∈ m.entries,
      (c.bom = true → ∃ mk t, sigOf tablesNow.marks b = some (c.enc, mk) ∧ mk.isPrefixOf b = true ∧
          (worldNow o).decode c.enc (b.drop mk.length) = .ok (some t) ∧ c.text = some t) ∧
      (Fl.ge c.chaos s.thr = false → (∃ mk, sigOf tablesNow.marks b = some (c.enc, mk)) → c.bom = true) ∧
      ((c.enc = nUTF16LE ∨ c.enc = nUTF16BE) → ∃ mk, sigOf tablesNow.marks b = some (c.enc, mk)) :=
  C07_bom sortMatches_perm marksMultiByte_now hthr hincl hexcl hb h

/-- non-vacuity: a BOM is recognised on a concrete input -/
example : sigOf tablesNow.marks [0xEF, 0xBB, 0xBF, 0x68] = some (nUTF8, [0xEF, 0xBB, 0xBF]) := by
  decide +kernel

end Charset
