/-
  C04 — chaos threshold is honoured; fallback only when nothing else fits.
-/
import CharsetProof.Lemmas.EntryFacts
import CharsetProof.Lemmas.SortPerm
import CharsetProof.Model.Concrete
set_option linter.unusedSectionVars false
namespace Charset
variable {E L : Type} [DecidableEq E]

/-- the encodings detection treats as self-identifying for this input: declared in the content (when
    pre-emptive behaviour is on), indicated by BOM/signature, ascii, utf-8 -/
def hintsOf (T : Tables E) (b : Bytes) (s : Settings) : List E := prioritized T b s.preemptive

/-- **C04 (a)** — for every world, tables, permutation-sort, non-empty input and settings: either every
    candidate of every match failed the test `chaos >= threshold` (so `chaos < threshold` whenever
    chaos is a number, see `C04_lt`), or the result is one single fallback match whose chaos *equals*
    the threshold, fallback being enabled and its encoding being one of the hints. -/
theorem C04_threshold {W : World E L} {T : Tables E} {sort : Sorter E L}
    (hperm : ∀ l, (sort l).Perm l) {b : Bytes} {s : Settings} {incl excl : List E}
    (hincl : canonList T.ianaName s.incl = .ok incl) (hexcl : canonList T.ianaName s.excl = .ok excl)
    {ms : List (Match E L)} (hb : b ≠ []) (h : fromBytes W T sort b s = .ok (.ok ms)) :
    (∀ m ∈ ms, Fl.ge m.chaos s.thr = false ∧ ∀ c ∈ m.entries, Fl.ge c.chaos s.thr = false) ∨
    (∃ fb, ms = [fb] ∧ fb.subs = [] ∧ fb.chaos = s.thr ∧ s.fallback = true ∧ fb.enc ∈ hintsOf T b s ∧
      fb.cohs = [] ∧ fb.bom = false) := by
  rcases fromBytes_facts hperm hincl hexcl hb h with hall | ⟨fb, rfl, hfb, hsubs⟩
  · left
    intro m hm
    have := Match.allEntries_iff.mp (hall m hm)
    exact ⟨(this _ m.toSub_mem_entries).below, fun c hc => (this c hc).below⟩
  · right
    have f := hfb.1
    exact ⟨fb, rfl, hsubs, f.chaos, f.enabled, List.contains_iff_mem.mp f.hint, f.cohs, f.bom⟩

/-- **C04 (a')** — with a numeric threshold and numeric chaos, `chaos < threshold`, or the match is the single fallback
    match of (a) -/
theorem C04_lt {W : World E L} {T : Tables E} {sort : Sorter E L}
    (hperm : ∀ l, (sort l).Perm l) {b : Bytes} {s : Settings} {incl excl : List E}
    (hthr : s.thr.isNaN = false)
    (hincl : canonList T.ianaName s.incl = .ok incl) (hexcl : canonList T.ianaName s.excl = .ok excl)
    {ms : List (Match E L)} (hb : b ≠ []) (h : fromBytes W T sort b s = .ok (.ok ms))
    {m : Match E L} (hm : m ∈ ms) (hnum : m.chaos.isNaN = false) :
    Fl.lt m.chaos s.thr = true ∨ (ms = [m] ∧ m.chaos = s.thr ∧ s.fallback = true ∧ m.enc ∈ hintsOf T b s) := by
  rcases C04_threshold hperm hincl hexcl hb h with h1 | ⟨fb, rfl, _, h2, h3, h4, _⟩
  · left; exact Fl.lt_of_not_ge hnum hthr (h1 m hm).1
  · right
    simp only [List.mem_singleton] at hm
    subst hm
    exact ⟨rfl, h2, h3, h4⟩

/-- **C04 (b, percent accessors)** — `chaos_percents` / `coherence_percents` are exactly the f32
    product of the ratio with 100 (definitional in the model; tied bit-for-bit by T3) -/
theorem C04_percents (m : Match E L) :
    m.chaosPercents = Fl.mul m.chaos (Fl.ofNat fmt32 100) ∧
    m.coherencePercents = Fl.mul m.coherence (Fl.ofNat fmt32 100) := ⟨rfl, rfl⟩

/-- `coherence()` is the score of the first language or zero -/
theorem C04_coherence_head (m : Match E L) :
    m.coherence = (match m.cohs.head? with | some p => p.2 | none => Fl.zero) := by
  unfold Match.coherence
  cases m.cohs with
  | nil => rfl
  | cons p ps => rfl

theorem coherence_range {m : Match E L} (h : ∀ p ∈ m.cohs, 0 ≤ p.2.key ∧ p.2.key ≤ (Fl.ofNat fmt32 1).key) :
    0 ≤ m.coherence.key ∧ m.coherence.key ≤ (Fl.ofNat fmt32 1).key := by
  rw [C04_coherence_head]
  cases hc : m.cohs with
  | nil => exact Fl.atMost_zero
  | cons p ps => exact h p (by simp [hc])

/-- **C04 (b, range of coherence)** — if every score the merge step produces lies in `[0,1]`
    (a law of `World.merge`; asserted on every merge the harness performs), so does `coherence()` -/
theorem C04_coherence_range {W : World E L} {T : Tables E} {sort : Sorter E L}
    (hperm : ∀ l, (sort l).Perm l)
    (hmerge : ∀ xs r, W.merge xs = .ok r → ∀ p ∈ r, 0 ≤ p.2.key ∧ p.2.key ≤ (Fl.ofNat fmt32 1).key)
    {b : Bytes} {s : Settings} {incl excl : List E}
    (hincl : canonList T.ianaName s.incl = .ok incl) (hexcl : canonList T.ianaName s.excl = .ok excl)
    {ms : List (Match E L)} (hb : b ≠ []) (h : fromBytes W T sort b s = .ok (.ok ms)) :
    ∀ m ∈ ms, 0 ≤ m.coherence.key ∧ m.coherence.key ≤ (Fl.ofNat fmt32 1).key := by
  intro m hm
  refine coherence_range fun p hp => ?_
  rcases fromBytes_entry hperm hincl hexcl hb h hm m.toSub_mem_entries with f | ⟨f, _⟩
  · obtain ⟨cdl, hc⟩ := f.cohMerged
    exact hmerge _ _ hc p hp
  · rw [show m.cohs = [] from f.cohs] at hp
    cases hp

theorem C04_threshold_current (o : Oracle) {b : Bytes} {s : Settings} {incl excl : List Name}
    (hincl : canonList ianaNow s.incl = .ok incl) (hexcl : canonList ianaNow s.excl = .ok excl)
    {ms : List (Match Name Name)} (hb : b ≠ [])
    (h : fromBytes (worldNow o) tablesNow sortMatches b s = .ok (.ok ms)) :
    (∀ m ∈ ms, Fl.ge m.chaos s.thr = false ∧ ∀ c ∈ m.entries, Fl.ge c.chaos s.thr = false) ∨
    (∃ fb, ms = [fb] ∧ fb.subs = [] ∧ fb.chaos = s.thr ∧ s.fallback = true ∧ fb.enc ∈ hintsOf tablesNow b s ∧
      fb.cohs = [] ∧ fb.bom = false) :=
  C04_threshold sortMatches_perm hincl hexcl hb h

/-- non-vacuity of the comparison lemma: 0.1 < 0.2 in the float model -/
example : Fl.ge (F32.lit 1 10) (F32.lit 1 5) = false ∧ Fl.lt (F32.lit 1 10) (F32.lit 1 5) = true := by
  decide +kernel

end Charset
