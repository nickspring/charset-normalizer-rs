/-
  C15 end to end: the CLI model instantiated with the *model of the library* as its detector.
  What `--normalize` writes is the UTF-8 form of the strict decode of the original bytes minus the reported
  encoding's own mark – C01 (what a match exposes) composed with the CLI's write rule – and decoding the
  written file as UTF-8 gives that text back when it consists of scalar values (so nothing was lost or invented on the way).
-/
import CharsetProof.Props.C15Multi
import CharsetProof.Props.C01
import CharsetProof.Lemmas.Utf8
namespace Charset
variable {E L : Type} [DecidableEq E]

def minfoOf (nameOf : E → Name) (printed : Match E L → List Name) (m : Match E L) : MInfo :=
  ⟨nameOf m.enc, utf8Encode (m.text.getD []), printed m⟩

/-- `from_bytes` on a file's content with the tool's settings (what `from_path` does with a readable file, C14), as the
    CLI model's detector -/
def detectVia (W : World E L) (T : Tables E) (sort : Sorter E L) (s : Settings) (nameOf : E → Name)
    (printed : Match E L → List Name) : Bytes → Option (List MInfo) := fun content =>
  match fromBytes W T sort content s with
  | .ok (.ok ms) => some (ms.map (minfoOf nameOf printed))
  | _ => none

/-- **C15 (what is written)**: whenever processing a non-empty input writes a file, the written bytes are
    `utf8Encode t` where `t` is the strict decode – by some encoding `best` whose name does not start with `utf`
    (in the proof the one the best match reports; the statement does not say which) – of the original content minus
    that encoding's own mark, and the write goes to the sibling derived from `best` or to the input itself (which of
    the two the flags decide: `writeOfG_some`). -/
theorem C15_written_is_strict_decode {W : World E L} {T : Tables E} {sort : Sorter E L}
    (hperm : ∀ l, (sort l).Perm l) (hmb : ∀ em ∈ T.marks, T.isMultiByte em.1 = true) (laws : LazyLaws W T)
    {s : Settings} {incl excl : List E}
    (hincl : canonList T.ianaName s.incl = .ok incl) (hexcl : canonList T.ianaName s.excl = .ok excl)
    (nameOf : E → Name) (printed : Match E L → List Name)
    (a : CliArgs) (confirm : Path → Bool) (fs : FS) (p : Path) (w : Path × Bytes)
    (hw : writeOfG a confirm (detectVia W T sort s nameOf printed) fs p = some w) :
    ∃ content best t,
      fsGet fs p = some content ∧
      (content ≠ [] →
        W.decode best (stripMark T content best) = .ok (some t) ∧ w.2 = utf8Encode t) ∧
      startsWithUtf (nameOf best) = false ∧
      (w.1 = targetPath p (nameOf best) ∨ w.1 = p) := by
  obtain ⟨content, best, rest, hc, hdet, hu, htext, htarget⟩ := writeOfG_some hw
  -- the detector is the library: `best` is what the tool sees of the first match
  unfold detectVia at hdet
  split at hdet
  next ms hfb =>
    cases ms with
    | nil => cases hdet
    | cons m ms =>
      obtain ⟨rfl, _⟩ := List.cons.inj (Option.some.inj hdet)
      refine ⟨content, m.enc, m.text.getD [], hc, fun hne => ?_, hu, htarget.imp (·.2) (·.2)⟩
      obtain ⟨_, t, hdec, htext'⟩ :=
        C01_decodes hperm hmb laws hincl hexcl hne hfb m List.mem_cons_self _ m.toSub_mem_entries
      have htext' : m.text = some t := htext'
      have htext : w.2 = utf8Encode (m.text.getD []) := htext
      rw [htext'] at htext ⊢
      exact ⟨hdec, htext⟩
  next => cases hdet

/-- decoding the written file as UTF-8 gives the text back, whenever the decoder produced scalar values -/
theorem C15_written_roundtrip (t : Text) (hs : ∀ c ∈ t, isScalar c = true) :
    utf8Strict (utf8Encode t) = .ok t := utf8_roundtrip t hs

end Charset
