/-
  C15 — CLI normalisation is non-destructive and faithful.
  C16 — CLI report matches the library; bad invocations fail cleanly.
  Theorems about the model of `normalizer` (Model/Cli.lean); the binary itself is tied by T3
  (runs in temporary directories, file-system snapshots, stdout/exit status vs the library).
-/
import CharsetProof.Model.Cli
import CharsetProof.Lemmas.Lookup
namespace Charset

theorem fsGet_fsPut (fs : FS) (t q : Path) (b : Bytes) :
    fsGet (fsPut fs t b) q = if q = t then some b else fsGet fs q := by
  unfold fsGet fsPut
  by_cases h : q = t
  · subst h; simp
  · -- an entry found under `q ≠ t` is not one of those `fsPut` filters out
    have hp : (fun e : Path × Bytes => decide ((e.1 != t) = true ∧ (e.1 == q) = true)) = fun e => e.1 == q := by
      funext e; by_cases he : e.1 = q <;> simp [he, h]
    have hne : (t == q) = false := by simpa using fun h' : t = q => h h'.symm
    simp only [List.find?_cons, hne, h, ↓reduceIte, List.find?_filter, hp]

/-- what one input can do to the file system: nothing, or exactly one write of the decoded text -/
def FileEffect (a : CliArgs) (detect : Bytes → Option (List MInfo)) (confirm : Path → Bool)
    (fs : FS) (p : Path) (fs' : FS) : Prop :=
  fs' = fs ∨
  ∃ (content : Bytes) (best : MInfo) (rest : List MInfo) (t : Path),
    fsGet fs p = some content ∧ detect content = some (best :: rest) ∧ a.normalize = true ∧
    startsWithUtf best.encoding = false ∧
    ((a.replace = false ∧ t = targetPath p best.encoding) ∨
     (a.replace = true ∧ (a.force = true ∨ confirm p = true) ∧ t = p)) ∧
    fs' = fsPut fs t best.text

theorem processFile_effect {a : CliArgs} {detect : Bytes → Option (List MInfo)} {confirm : Path → Bool}
    {st st' : LoopSt} {p : Path} (h : processFile a detect confirm st p = .ok st') :
    FileEffect a detect confirm st.fs p st'.fs := by
  revert h
  fun_cases processFile a detect confirm st p <;> intro h <;> cases h
  case case7 content hc best rest hd _ _ hn hu target t ht _ =>
    -- the one branch that writes
    refine .inr ⟨content, best, rest, t, hc, hd, by simpa using hn, by simpa using hu, ?_, rfl⟩
    cases hr : a.replace <;> simp [target, hr] at ht
    · exact .inl ⟨rfl, ht.symm⟩
    · exact .inr ⟨rfl, ht.1, ht.2.symm⟩
  all_goals exact .inl rfl

/-- **C16 (validation first)** — contradictory flags or a threshold outside [0,1] end the run with an
    error, whatever the files are: the result does not depend on the file system, which is unchanged -/
theorem C16_validation_first (a : CliArgs) (detect : Bytes → Option (List MInfo)) (confirm : Path → Bool)
    (fs : FS) (e : CliError) (h : validate a = some e) : runCli a detect confirm fs = (.error e, fs) := by
  unfold runCli; rw [h]

section
variable {a : CliArgs} {detect : Bytes → Option (List MInfo)} {confirm : Path → Bool}

theorem runCli_go_eq : ∀ (ps : List Path) (st : LoopSt),
    (runCli.go a detect confirm ps st).1 = processAll a detect confirm ps st ∧
    ∀ {st'}, processAll a detect confirm ps st = .ok st' → (runCli.go a detect confirm ps st).2 = st'.fs
  | [], _ => ⟨rfl, fun h => by cases h; rfl⟩
  | p :: ps, st => by
    simp only [runCli.go, processAll]
    cases processFile a detect confirm st p with
    | error e => exact ⟨rfl, nofun⟩
    | ok st' => exact runCli_go_eq ps st'

theorem runCli_eq {fs : FS} (hv : validate a = none) :
    runCli a detect confirm fs =
      ((processAll a detect confirm a.files ⟨fs, []⟩).map (fun st => report a st.results),
       (runCli.go a detect confirm a.files ⟨fs, []⟩).2) := by
  unfold runCli
  simp only [hv, ← (runCli_go_eq _ _).1]
  cases runCli.go a detect confirm a.files ⟨fs, []⟩ with
  | mk r fs' => cases r <;> rfl

theorem runCli_ok {fs : FS} {rep : Report} (h : (runCli a detect confirm fs).1 = .ok rep) :
    ∃ st, processAll a detect confirm a.files ⟨fs, []⟩ = .ok st ∧ (runCli a detect confirm fs).2 = st.fs := by
  cases hv : validate a with
  | some e => rw [C16_validation_first a detect confirm fs e hv] at h; cases h
  | none =>
    rw [runCli_eq hv] at h ⊢
    cases hp : processAll a detect confirm a.files ⟨fs, []⟩ with
    | error e => rw [hp] at h; cases h
    | ok st => exact ⟨st, rfl, (runCli_go_eq _ _).2 hp⟩

theorem runCli_go_unchanged {fs : FS} : ∀ (ps : List Path) (st : LoopSt), st.fs = fs →
    (∀ p ∈ ps, ∀ fs', FileEffect a detect confirm fs p fs' → fs' = fs) → (runCli.go a detect confirm ps st).2 = fs
  | [], _, hst, _ => hst
  | p :: ps, st, hst, h => by
    simp only [runCli.go]
    cases hp : processFile a detect confirm st p with
    | error e => exact hst
    | ok st' =>
      exact runCli_go_unchanged ps st' (h p List.mem_cons_self _ (hst ▸ processFile_effect hp))
        (fun q hq => h q (List.mem_cons_of_mem _ hq))

theorem runCli_unchanged {fs : FS} (h : ∀ p ∈ a.files, ∀ fs', FileEffect a detect confirm fs p fs' → fs' = fs) :
    (runCli a detect confirm fs).2 = fs := by
  cases hv : validate a with
  | some e => rw [C16_validation_first a detect confirm fs e hv]
  | none => rw [runCli_eq hv]; exact runCli_go_unchanged a.files ⟨fs, []⟩ rfl h

end

/-- **C15 (without `--normalize` nothing changes on disk)** -/
theorem C15_no_normalize_no_write (a : CliArgs) (detect : Bytes → Option (List MInfo)) (confirm : Path → Bool)
    (fs : FS) (hn : a.normalize = false) : (runCli a detect confirm fs).2 = fs := by
  refine runCli_unchanged fun p _ fs' h => ?_
  rcases h with h | ⟨_, _, _, _, _, _, hnn, _⟩
  · exact h
  · rw [hn] at hnn; cases hnn

/-- **C15 (one input, `--normalize` without `--replace`)**: the input keeps its content and – when it is
    detected as a non-UTF encoding – exactly the sibling `<stem>.<encoding>[.<ext>]` receives the decoded
    text; provided the derived name is not the input itself (the excluded point, see DESIGN) -/
theorem C15_single_normalize (a : CliArgs) (detect : Bytes → Option (List MInfo)) (confirm : Path → Bool)
    (fs : FS) (p : Path) (content : Bytes) (best : MInfo) (rest : List MInfo)
    (hv : validate a = none) (hfiles : a.files = [p]) (hn : a.normalize = true) (hr : a.replace = false)
    (hc : fsGet fs p = some content) (hd : detect content = some (best :: rest))
    (hu : startsWithUtf best.encoding = false) (hne : targetPath p best.encoding ≠ p) :
    let fs' := (runCli a detect confirm fs).2
    fsGet fs' p = some content ∧ fsGet fs' (targetPath p best.encoding) = some best.text ∧
    ∀ q, q ≠ targetPath p best.encoding → fsGet fs' q = fsGet fs q := by
  simp only [runCli, hv, hfiles, runCli.go, processFile, hc, hd, hn, hu, hr, Bool.not_true, Bool.false_eq_true,
    ↓reduceIte, Bool.not_false]
  refine ⟨?_, ?_, ?_⟩
  · rw [fsGet_fsPut, if_neg (fun h => hne h.symm)]; exact hc
  · rw [fsGet_fsPut, if_pos rfl]
  · intro q hq; rw [fsGet_fsPut, if_neg hq]

/-- **C15 (UTF-* and undetected inputs are never written)** – single input -/
theorem C15_single_utf_or_none (a : CliArgs) (detect : Bytes → Option (List MInfo)) (confirm : Path → Bool)
    (fs : FS) (p : Path) (content : Bytes) (hfiles : a.files = [p]) (hc : fsGet fs p = some content)
    (h : detect content = some [] ∨ ∃ best rest, detect content = some (best :: rest) ∧ startsWithUtf best.encoding = true) :
    (runCli a detect confirm fs).2 = fs := by
  refine runCli_unchanged fun q hq fs' he => ?_
  rw [hfiles, List.mem_singleton] at hq
  subst hq
  rcases he with he | ⟨content', best', rest', _, hc', hd', _, hu', _⟩
  · exact he
  · -- a write needs a best match that is not UTF-*
    rw [hc] at hc'; cases hc'
    rcases h with h | ⟨best, rest, h, hu⟩ <;> rw [hd'] at h <;> cases h
    rw [hu'] at hu; cases hu

theorem replace_needs_force (a : CliArgs) (detect : Bytes → Option (List MInfo)) (fs : FS)
    (hr : a.replace = true) (hf : a.force = false) : (runCli a detect (fun _ => false) fs).2 = fs := by
  refine runCli_unchanged fun q _ fs' he => ?_
  rcases he with he | ⟨_, _, _, _, _, _, _, _, ⟨h1, _⟩ | ⟨_, h2 | h2, _⟩, _⟩
  · exact he
  · rw [hr] at h1; cases h1
  · rw [hf] at h2; cases h2
  · cases h2

/-- **C15 (`--replace` without `--force` in a non-interactive run writes nothing)** – single input -/
theorem C15_replace_needs_force (a : CliArgs) (detect : Bytes → Option (List MInfo)) (fs : FS) (p : Path)
    (hfiles : a.files = [p]) (hr : a.replace = true) (hf : a.force = false) :
    (runCli a detect (fun _ => false) fs).2 = fs :=
  replace_needs_force a detect fs hr hf

/-- **C15 (`--replace --force`)**: the original is overwritten by the decoded text – single input -/
theorem C15_replace_force (a : CliArgs) (detect : Bytes → Option (List MInfo)) (confirm : Path → Bool)
    (fs : FS) (p : Path) (content : Bytes) (best : MInfo) (rest : List MInfo)
    (hv : validate a = none) (hfiles : a.files = [p]) (hn : a.normalize = true) (hr : a.replace = true)
    (hf : a.force = true) (hc : fsGet fs p = some content) (hd : detect content = some (best :: rest))
    (hu : startsWithUtf best.encoding = false) :
    fsGet (runCli a detect confirm fs).2 p = some best.text := by
  simp only [runCli, hv, hfiles, runCli.go, processFile, hc, hd, hn, hu, hr, hf, Bool.not_true, Bool.false_eq_true,
    ↓reduceIte, Bool.true_or]
  rw [fsGet_fsPut, if_pos rfl]

/-- target naming: split at the last dot -/
example : targetName (nameOfStr "data.old.csv") (nameOfStr "koi8-r") = nameOfStr "data.old.koi8-r.csv" := by
  rw [nameOfStr_ofList, nameOfStr_ofList, nameOfStr_ofList]
  decide +kernel
example : targetName (nameOfStr "README") (nameOfStr "windows-1252") = nameOfStr "README.windows-1252" := by
  rw [nameOfStr_ofList, nameOfStr_ofList, nameOfStr_ofList]
  decide +kernel
example : targetPath (nameOfStr "/tmp/x/a.txt") (nameOfStr "big5") = nameOfStr "/tmp/x/a.big5.txt" := by
  rw [nameOfStr_ofList, nameOfStr_ofList, nameOfStr_ofList]
  decide +kernel

/-- the derived name of one input can be the path of another (`/d/a.koi8-r.txt` beside `/d/a.txt`): the excluded point of
    `C15_multi_normalize`, known finding C15:derived-name-collides-with-input -/
example : targetPath (nameOfStr "/d/a.txt") (nameOfStr "koi8-r") = nameOfStr "/d/a.koi8-r.txt" := by
  rw [nameOfStr_ofList, nameOfStr_ofList, nameOfStr_ofList]
  decide +kernel

theorem C16_validate_cases (a : CliArgs) :
    (a.replace = true ∧ a.normalize = false → validate a = some .replaceWithoutNormalize) ∧
    (a.replace = false ∧ a.force = true → validate a = some .forceWithoutReplace) ∧
    (a.thresholdOk = false → validate a ≠ none) := by
  refine ⟨?_, ?_, ?_⟩
  · intro ⟨h1, h2⟩; simp [validate, h1, h2]
  · intro ⟨h1, h2⟩; simp [validate, h1, h2]
  · intro h
    unfold validate
    split
    · simp
    · split
      · simp
      · simp [h]

/-- **C16 (missing file)** — a missing input ends the run with an error and no report – single input (any number,
    without `--normalize`: `C16_multi_failure`) -/
theorem C16_missing_file (a : CliArgs) (detect : Bytes → Option (List MInfo)) (confirm : Path → Bool)
    (fs : FS) (p : Path) (hv : validate a = none) (hfiles : a.files = [p]) (hm : fsGet fs p = none) :
    runCli a detect confirm fs = (.error (.missingFile p), fs) := by
  simp [runCli, hv, hfiles, runCli.go, processFile, hm]

/-- **C16 (report shape)** — without `--minimal`: an object iff there is exactly one entry, an array
    otherwise; with `--minimal`: one line per input -/
theorem C16_report_shape (a : CliArgs) (results : List Entry) :
    (a.minimal = true → ∃ ls, report a results = .minimal ls ∧ ls.length = a.files.length) ∧
    (a.minimal = false → (∀ e, results = [e] → report a results = .object e) ∧
      (results.length ≠ 1 → report a results = .array results)) := by
  refine ⟨?_, ?_⟩
  · intro h; simp [report, h]
  · intro h
    refine ⟨?_, ?_⟩
    · intro e he; simp [report, h, he]
    · intro hl
      simp only [report, h, Bool.false_eq_true, ↓reduceIte]
      cases results with
      | nil => rfl
      | cons x xs =>
        cases xs with
        | nil => simp at hl
        | cons y ys => rfl

/-- **C16 (fields come from the library, best first)** — for one readable input, without `--normalize` and
    `--minimal`, the first entry is the library's best match (its encoding and all printed fields); alternatives
    follow only with `--with-alternative` -/
theorem C16_single_entry (a : CliArgs) (detect : Bytes → Option (List MInfo)) (confirm : Path → Bool)
    (fs : FS) (p : Path) (content : Bytes) (best : MInfo) (rest : List MInfo)
    (hv : validate a = none) (hfiles : a.files = [p]) (hn : a.normalize = false) (hm : a.minimal = false)
    (hc : fsGet fs p = some content) (hd : detect content = some (best :: rest)) :
    (a.alternatives = false → (runCli a detect confirm fs).1 = .ok (.object ⟨p, some best.encoding, best.printed, none⟩)) ∧
    (a.alternatives = true → rest ≠ [] → (runCli a detect confirm fs).1 =
      .ok (.array (⟨p, some best.encoding, best.printed, none⟩ :: rest.map (fun m => ⟨p, some m.encoding, m.printed, none⟩)))) := by
  refine ⟨?_, ?_⟩
  · intro ha
    simp [runCli, hv, hfiles, runCli.go, processFile, hc, hd, hn, ha, report, hm]
  · intro ha hne
    simp only [runCli, hv, hfiles, runCli.go, processFile, hc, hd, hn, ha, report, hm, Bool.not_false, ↓reduceIte,
      List.nil_append, Bool.false_eq_true]
    cases rest with
    | nil => exact absurd rfl hne
    | cons r rs => rfl

end Charset
