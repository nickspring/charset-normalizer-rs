/-
  C04, coherence clause, for the fully modelled world: every reported coherence score is non-negative and not NaN
  for `steps < 2^62`, and at most 1 for `steps < 2^22`.  (The per-chunk scores are in [0,1] by LeOne.lean; the mean
  over the chunks keeps "non-negative" for any number of chunks, "at most 1" only while their number is an exact f32.)
-/
import CharsetProof.Props.C10Languages
import CharsetProof.Props.C04
import CharsetProof.Model.WorldFull
import CharsetProof.Lemmas.LeOne
namespace Charset
open Fl

theorem languagesNow_short : ∀ row ∈ Gen.languages, row.2.1.length < 2 ^ 64 := by decide +kernel

/-- where the language scores of a candidate come from in the fully modelled world: the merge of at most `2·steps`
    answers of `coherence_ratio` (of none for ASCII and for the fallback match), each a duplicate-free list of
    scores `≤ 1` -/
theorem worldFull_cohs_le_one (menv : Md.MdEnv) (cenv : Coh.CohEnv) (o : Oracle)
    (henv : ∀ c x, x ∈ cenv.lower c → x < 0x110000)
    {b : Bytes} {s : Settings} {incl excl : List Name}
    (hincl : canonList ianaNow s.incl = .ok incl) (hexcl : canonList ianaNow s.excl = .ok excl)
    {ms : List (Match Name Name)} (hb : b ≠ [])
    (h : fromBytes (worldFull menv cenv o) tablesNow sortMatches b s = .ok (.ok ms))
    {m : Match Name Name} (hm : m ∈ ms) {c : Sub Name Name} (hc : c ∈ m.entries) :
    ∃ cdl, c.cohs = mergeModel cdl ∧ cdl.length ≤ 2 * max s.steps 1 ∧
      (∀ r ∈ cdl, (r.map (·.1)).Nodup) ∧ ∀ r ∈ cdl, ∀ q ∈ r, AtMost q.2 1 := by
  obtain ⟨cdl, hcohs, hans, hlen⟩ := cohs_eq_mergeModel sortMatches_perm (fun _ => rfl) hincl hexcl hb h hm hc
  have hst : (ctxOf tablesNow b s).steps ≤ max s.steps 1 := normWindow_steps_le
  refine ⟨cdl, hcohs, by omega, fun r hr => ?_, fun r hr => ?_⟩
  · obtain ⟨langs, t, _, ht⟩ := hans r hr
    exact Coh.coherenceRatio_nodup (Except.ok.inj ht)
  · obtain ⟨langs, t, _, ht⟩ := hans r hr
    exact Coh.coherenceRatio_scores_le_one henv languagesNow_short (Except.ok.inj ht)

/-- **C04 (coherence, lower bound) for the fully modelled world** — every language score of every candidate of
    every match (`coherence()` is the first of them, or zero) is non-negative and not NaN, for every Unicode
    environment whose `to_lowercase` yields scalar values, every non-empty input and settings with `steps < 2^62` -/
theorem C04_coherence_nonneg_full (menv : Md.MdEnv) (cenv : Coh.CohEnv) (o : Oracle)
    (henv : ∀ c x, x ∈ cenv.lower c → x < 0x110000)
    {b : Bytes} {s : Settings} {incl excl : List Name} (hsteps : s.steps < 2 ^ 62)
    (hincl : canonList ianaNow s.incl = .ok incl) (hexcl : canonList ianaNow s.excl = .ok excl)
    {ms : List (Match Name Name)} (hb : b ≠ [])
    (h : fromBytes (worldFull menv cenv o) tablesNow sortMatches b s = .ok (.ok ms)) :
    ∀ m ∈ ms, ∀ c ∈ m.entries, ∀ p ∈ c.cohs, 0 ≤ p.2.key ∧ p.2.isNaN = false := by
  intro m hm c hc p hp
  obtain ⟨cdl, hcohs, hlen, hnd, hle⟩ := worldFull_cohs_le_one menv cenv o henv hincl hexcl hb h hm hc
  rw [hcohs] at hp
  have hok := mergeModel_scores_ok cdl hnd (fun r hr q hq => (hle r hr q hq).ok) (by omega) p hp
  exact ⟨hok.1, ok_not_nan hok⟩

/-- **C04 (coherence lies in [0,1]) for the fully modelled world** — every language score of every
    candidate of every match, hence `coherence()`, is a number between 0 and 1: for every Unicode
    environment whose `to_lowercase` yields scalar values, every non-empty input, every settings with
    `steps < 2^22` (the mean over at most 2·steps chunk lists must stay within f32's exact integers) -/
theorem C04_coherence_unit_interval_full (menv : Md.MdEnv) (cenv : Coh.CohEnv) (o : Oracle)
    (henv : ∀ c x, x ∈ cenv.lower c → x < 0x110000)
    {b : Bytes} {s : Settings} {incl excl : List Name} (hsteps : s.steps < 2 ^ 22)
    (hincl : canonList ianaNow s.incl = .ok incl) (hexcl : canonList ianaNow s.excl = .ok excl)
    {ms : List (Match Name Name)} (hb : b ≠ [])
    (h : fromBytes (worldFull menv cenv o) tablesNow sortMatches b s = .ok (.ok ms)) :
    ∀ m ∈ ms, ∀ c ∈ m.entries, ∀ p ∈ c.cohs, 0 ≤ p.2.key ∧ p.2.key ≤ (Fl.ofNat fmt32 1).key := by
  intro m hm c hc p hp
  obtain ⟨cdl, hcohs, hlen, hnd, hle⟩ := worldFull_cohs_le_one menv cenv o henv hincl hexcl hb h hm hc
  rw [hcohs] at hp
  exact mergeModel_scores_le_one cdl hnd hle (by omega) p hp

/-- **C04 (`coherence()` lies in [0,1]) for the fully modelled world**, under the same hypotheses -/
theorem C04_coherence_range_full (menv : Md.MdEnv) (cenv : Coh.CohEnv) (o : Oracle)
    (henv : ∀ c x, x ∈ cenv.lower c → x < 0x110000)
    {b : Bytes} {s : Settings} {incl excl : List Name} (hsteps : s.steps < 2 ^ 22)
    (hincl : canonList ianaNow s.incl = .ok incl) (hexcl : canonList ianaNow s.excl = .ok excl)
    {ms : List (Match Name Name)} (hb : b ≠ [])
    (h : fromBytes (worldFull menv cenv o) tablesNow sortMatches b s = .ok (.ok ms)) :
    ∀ m ∈ ms, 0 ≤ m.coherence.key ∧ m.coherence.key ≤ (Fl.ofNat fmt32 1).key := by
  intro m hm
  exact coherence_range
    (C04_coherence_unit_interval_full menv cenv o henv hsteps hincl hexcl hb h m hm _ m.toSub_mem_entries)

end Charset
