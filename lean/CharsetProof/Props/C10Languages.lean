/-
  C10 / C19, language lists in a world whose merge step is `mergeModel` (`worldNow`, `worldFull`): every list is a
  merge result (`cohs_eq_mergeModel`), hence no repeats, only the target language for a tied encoding, ordered by
  non-increasing score; then the instances for the current tree.
-/
import CharsetProof.Props.C10
import CharsetProof.Lemmas.Merge
import CharsetProof.Lemmas.EntryFacts
import CharsetProof.Lemmas.Codec
namespace Charset

variable {E L : Type} [DecidableEq E]

/-- the law of `coherence_ratio` with an include list (cd.rs:214-218, 230-234: a non-empty list other than
    `[Unknown]` replaces the candidate languages): only listed languages are scored -/
def CohRespectsInclude (W : World E L) (unknown : L) : Prop :=
  ∀ t thr langs r, W.coh t thr langs = .ok (some r) → langs ≠ [] → langs ≠ [unknown] → ∀ p ∈ r, p.1 ∈ langs

section
variable [DecidableEq L] {W : World E L} {T : Tables E} {sort : Sorter E L} (hperm : ∀ l, (sort l).Perm l)
  (hmerge : ∀ xs, W.merge xs = .ok (mergeModel xs))
  {b : Bytes} {s : Settings} {incl excl : List E}
  (hincl : canonList T.ianaName s.incl = .ok incl) (hexcl : canonList T.ianaName s.excl = .ok excl)
  {ms : List (Match E L)} (hb : b ≠ []) (h : fromBytes W T sort b s = .ok (.ok ms))
include hperm hmerge hincl hexcl hb h

/-- in a world whose merge step is `mergeModel`, every reported language list is a merge result
    (of the per-chunk lists of its encoding's target languages; of nothing for the fallback) -/
theorem cohs_eq_mergeModel {m : Match E L} (hm : m ∈ ms) {c : Sub E L} (hc : c ∈ m.entries) :
    ∃ cdl, c.cohs = mergeModel cdl ∧ (∀ r ∈ cdl, ∃ langs t, W.target c.enc = .ok langs ∧
      W.coh t (ctxOf T b s).langThr langs = .ok (some r)) ∧ cdl.length ≤ 2 * (ctxOf T b s).steps := by
  rcases fromBytes_entry hperm hincl hexcl hb h hm hc with f | ⟨f, _⟩
  · obtain ⟨p, acc, ⟨_, _, _, hpc, _⟩, _, cdl, hcds, hm'⟩ := f.run
    refine ⟨cdl, (Except.ok.inj ((hmerge cdl).symm.trans hm')).symm, ?_⟩
    rcases cdsOf_ok hcds with ⟨_, rfl⟩ | ⟨_, langs, htar, hall⟩
    · exact ⟨(fun _ hr => nomatch hr), Nat.zero_le _⟩
    · exact ⟨fun r hr => ((cohAll_ok hall).2 r hr).elim fun t ht => ⟨langs, t, htar, ht⟩,
        Nat.le_trans (cohAll_ok hall).1 (probeChunks_len hpc).2⟩
  · exact ⟨[], by rw [f.cohs]; exact mergeModel_nil.symm, (fun _ hr => nomatch hr), Nat.zero_le _⟩

theorem fromBytes_tied_language {unknown : L} (hcoh : CohRespectsInclude W unknown)
    {m : Match E L} (hm : m ∈ ms) {c : Sub E L} (hc : c ∈ m.entries) {lang : L}
    (htar : W.target c.enc = .ok [lang]) (hlang : lang ≠ unknown) : ∀ l ∈ c.cohs.map (·.1), l = lang := by
  obtain ⟨cdl, e, hcdl, _⟩ := cohs_eq_mergeModel hperm hmerge hincl hexcl hb h hm hc
  intro l hl
  rw [e] at hl
  obtain ⟨r, hr, hlr⟩ := (mergeModel_mem cdl l).mp hl
  obtain ⟨langs, t, htar', ht⟩ := hcdl r hr
  cases htar.symm.trans htar'
  obtain ⟨q, hq, rfl⟩ := List.mem_map.mp hlr
  simpa using hcoh t _ _ r ht (by simp) (by simpa using hlang) q hq

theorem fromBytes_languages_nodup : ∀ m ∈ ms, m.languages.Nodup := by
  refine C10_languages hperm (fun xs r hr => ?_) hincl hexcl hb h
  rw [hmerge, Except.ok.injEq] at hr
  rw [← hr]
  exact mergeModel_nodup xs

theorem fromBytes_cohs_sorted : ∀ m ∈ ms, ∀ c ∈ m.entries, c.cohs.Pairwise (fun a b => b.2.key ≤ a.2.key) := by
  intro m hm c hc
  obtain ⟨cdl, e, _⟩ := cohs_eq_mergeModel hperm hmerge hincl hexcl hb h hm hc
  rw [e]; exact mergeModel_sorted cdl

end

/-- **C10 (language list has no repeats), current tree** — no hypothesis about the merge step -/
theorem C10_languages_current (o : Oracle) {b : Bytes} {s : Settings} {incl excl : List Name}
    (hincl : canonList ianaNow s.incl = .ok incl) (hexcl : canonList ianaNow s.excl = .ok excl)
    {ms : List (Match Name Name)} (hb : b ≠ [])
    (h : fromBytes (worldNow o) tablesNow sortMatches b s = .ok (.ok ms)) :
    ∀ m ∈ ms, m.languages.Nodup :=
  fromBytes_languages_nodup sortMatches_perm (fun _ => rfl) hincl hexcl hb h

/-- **C10 (tied language)** — in the current tree, if `coherence_ratio` respects its include list, every
    candidate whose encoding is tied to one language (`mb_encoding_languages`) lists no other language -/
theorem C10_tied_language (o : Oracle) (hcoh : CohRespectsInclude (worldNow o) nUnknown)
    {b : Bytes} {s : Settings} {incl excl : List Name}
    (hincl : canonList ianaNow s.incl = .ok incl) (hexcl : canonList ianaNow s.excl = .ok excl)
    {ms : List (Match Name Name)} (hb : b ≠ [])
    (h : fromBytes (worldNow o) tablesNow sortMatches b s = .ok (.ok ms))
    {m : Match Name Name} (hm : m ∈ ms) {c : Sub Name Name} (hc : c ∈ m.entries) {lang : Name}
    (htied : lookupName Gen.targetLanguages c.enc = some [lang]) (hlang : lang ≠ nUnknown) :
    ∀ l ∈ c.cohs.map (·.1), l = lang :=
  fromBytes_tied_language sortMatches_perm (fun _ => rfl) hincl hexcl hb h hcoh hm hc (worldNow_target o htied) hlang

/-- **C19 (order of the reported list), current tree** — every candidate's language list is ordered by
    non-increasing score, for every number of chunks and languages -/
theorem C19_result_sorted_current (o : Oracle) {b : Bytes} {s : Settings} {incl excl : List Name}
    (hincl : canonList ianaNow s.incl = .ok incl) (hexcl : canonList ianaNow s.excl = .ok excl)
    {ms : List (Match Name Name)} (hb : b ≠ [])
    (h : fromBytes (worldNow o) tablesNow sortMatches b s = .ok (.ok ms)) :
    ∀ m ∈ ms, ∀ c ∈ m.entries, c.cohs.Pairwise (fun a b => b.2.key ≤ a.2.key) :=
  fromBytes_cohs_sorted sortMatches_perm (fun _ => rfl) hincl hexcl hb h

/-- tie T1: the encodings the property names are tied to exactly that language in the dumped table -/
theorem C10_tied_table_now :
    (lookupName Gen.targetLanguages (nameOfStr "euc-kr") == some [nameOfStr "Korean"] &&
     lookupName Gen.targetLanguages (nameOfStr "big5") == some [nameOfStr "Chinese"] &&
     lookupName Gen.targetLanguages (nameOfStr "gbk") == some [nameOfStr "Chinese"] &&
     lookupName Gen.targetLanguages (nameOfStr "gb18030") == some [nameOfStr "Chinese"] &&
     lookupName Gen.targetLanguages (nameOfStr "euc-jp") == some [nameOfStr "Japanese"] &&
     lookupName Gen.targetLanguages (nameOfStr "shift_jis") == some [nameOfStr "Japanese"] &&
     lookupName Gen.targetLanguages (nameOfStr "iso-2022-jp") == some [nameOfStr "Japanese"]) = true := by
  rw [nameOfStr_ofList]
  repeat rw [nameOfStr_ofList]
  decide +kernel

end Charset
