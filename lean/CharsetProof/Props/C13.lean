/-
  C13 — inputs that fit the analysis window are analysed in full.
-/
import CharsetProof.Lemmas.Table
import CharsetProof.Props.C01
set_option linter.unusedSectionVars false
namespace Charset
variable {E L : Type} [DecidableEq E]

def Fits (b : Bytes) (s : Settings) : Prop := b.length ≤ s.chunk * s.steps

/-- **C13 (window collapse)**: an input that fits is analysed as one chunk spanning everything -/
theorem C13_normWindow_fit {len steps chunk : Nat} (h : len ≤ chunk * steps) :
    normWindow len steps chunk = (1, len) := by
  unfold normWindow
  simp [h]

theorem ctxOf_fit {T : Tables E} {b : Bytes} {s : Settings} (hfit : Fits b s) :
    (ctxOf T b s).steps = 1 ∧ (ctxOf T b s).chunk = b.length := by
  unfold ctxOf; simp [C13_normWindow_fit hfit]

/-- **C13 (window parameters irrelevant)**: any two settings whose windows both cover the input and
    that agree elsewhere give the *same* result (same matches, order, scores, everything) -/
theorem C13_window_irrelevant {W : World E L} {T : Tables E} {sort : Sorter E L} {b : Bytes} {s s' : Settings}
    (hfit : Fits b s) (hfit' : Fits b s')
    (hrest : s'.thr = s.thr ∧ s'.langThr = s.langThr ∧ s'.incl = s.incl ∧ s'.excl = s.excl ∧
      s'.preemptive = s.preemptive ∧ s'.fallback = s.fallback ∧ s'.trace = s.trace) :
    fromBytes W T sort b s' = fromBytes W T sort b s := by
  obtain ⟨h1, h2, h3, h4, h5, h6, h7⟩ := hrest
  exact fromBytes_settings_congr (by rw [h3]) (by rw [h4])
    (by unfold ctxOf; rw [C13_normWindow_fit hfit, C13_normWindow_fit hfit', h1, h2, h5, h6, h7]) h5

/-- chaos of a text analysed as a single chunk: a function of the text and the threshold only -/
def chaosOfText (W : World E L) (t : Text) (thr : F32) : M F32 :=
  if t.isEmpty then .ok Fl.zero
  else match W.mess t thr with
    | .error s => .error s
    | .ok r => .ok (meanRatio [r])

/-- the chunk analysis `acc` looked at the text `t` as a whole: as its one chunk, or at nothing when `t` is empty -/
structure ChunkAcc.Whole (acc : ChunkAcc) (W : World E L) (T : Tables E) (e : E) (thr : F32) (t : Text) : Prop where
  valid : validChunk T e t = some t
  chunks : acc.chunks = if t.isEmpty then [] else [t]
  chaos : chaosOfText W t thr = .ok (meanRatio acc.ratios)

theorem ChunkAcc.Whole.of_one {W : World E L} {T : Tables E} {e : E} {thr : F32} {t : Text} {acc : ChunkAcc}
    (hne : t ≠ [])
    (h : validChunk T e t = some t ∧ ∃ r, W.mess t thr = .ok r ∧ acc.chunks = [t] ∧ acc.ratios = [r]) :
    acc.Whole W T e thr t := by
  obtain ⟨hv, r, hr, hch, hrat⟩ := h
  have hemp : t.isEmpty = false := by simpa using hne
  exact ⟨hv, by rw [hch, hemp]; rfl, by simp [chaosOfText, hemp, hr, hrat]⟩

/-- Every entry `c`, regular or fallback, exposes the strict decode `t` of the input minus its own mark (C01), and
    every chunk analysis behind it (`p`, `acc` as the entry facts describe them) looked
    at `t` as a whole.  Off the lazy path this needs one character per byte at most (`t` lies within the one chunk);
    on it the single-byte laws of C01 (`hw`: the one chunk is the decode of all bytes, which is the exposed text),
    and there the decode of a non-empty input must not be empty, or the one chunk would be the empty text. -/
theorem whole_of_fits {W : World E L} {T : Tables E}
    (hchars : ∀ e x t, e ∈ T.supported → W.decode e x = .ok (some t) → t.length ≤ x.length)
    {b : Bytes} {s : Settings} (hfit : Fits b s) (hb : b ≠ []) {incl excl : List E} {c : Sub E L}
    (f : EntryCommon W T (ctxOf T b s) incl excl c)
    (hw : lazyOf T (ctxOf T b s) c.enc = true → (∀ em ∈ T.marks, T.isMultiByte em.1 = true) ∧ LazyLaws W T)
    {p : Prepared} {acc : ChunkAcc} (r : ChunkRun W T (ctxOf T b s) c.enc c.text p acc) :
    ∃ t, W.decode c.enc (stripMark T b c.enc) = .ok (some t) ∧ c.text = some t ∧
      ((lazyOf T (ctxOf T b s) c.enc = true → t ≠ []) → acc.Whole W T c.enc s.thr t) := by
  have hctx := ctxOf_fit (T := T) hfit
  obtain ⟨t, hdec, ht⟩ := entry_decodes f hw
  refine ⟨t, hdec, ht, fun hne => ?_⟩
  cases hl : lazyOf T (ctxOf T b s) c.enc with
  | false =>
    have hp : p.payload = some t := (r.payload hl).trans ht
    have hlen : t.length ≤ (ctxOf T b s).chunk := by
      rw [hctx.2]
      exact Nat.le_trans (hchars _ _ _ f.supported hdec) (by rw [← drop_startIdx (s := s)]; simp)
    have hstart := startOffOf_some hp
    have hseq := seqLenOf_some (c := ctxOf T b s) hp
    cases t with
    | nil =>
      rw [probeChunks_nil hctx.1 hstart hseq r.run]
      exact ⟨by simp [validChunk, isAsciiText], rfl, rfl⟩
    | cons a as =>
      -- the one chunk, `(t.drop 0).take chunk`, is `t` itself
      have hchunk : chunkAt W T (ctxOf T b s) c.enc p.payload (seqLenOf (ctxOf T b s) p) 0 =
          .ok (validChunk T c.enc (a :: as)) := by
        rw [hp, chunkAt, List.drop_zero, List.take_of_length_le hlen]
      exact .of_one (List.cons_ne_nil a as)
        (probeChunks_single hctx.1 hstart (by rw [hseq]; exact Nat.succ_ne_zero _) hchunk r.run r.valid)
  | true =>
    obtain ⟨hmb, _⟩ := hw hl
    have hsb := (lazyOf_ctxOf_iff.mp hl).2
    rw [stripMark_single_byte hmb hsb] at hdec
    have hpay := r.payloadLazy hl
    -- no mark, no payload: the sequence is the input, and its one chunk, bytes `0 .. b.length`, decodes to `t`
    have hstart : startOffOf p = 0 := by simp [startOffOf, r.bomHere, bomHereOf_ctxOf_false hmb hsb]
    have hseq : seqLenOf (ctxOf T b s) p = b.length := seqLenOf_none hpay
    have hchunk : chunkAt W T (ctxOf T b s) c.enc p.payload (seqLenOf (ctxOf T b s) p) 0 =
        .ok (validChunk T c.enc t) := by
      simp [chunkAt, hseq, hpay, hctx.2, ctxOf_b, sliceF, hdec]
    have hpos : seqLenOf (ctxOf T b s) p ≠ 0 := by simpa [hseq] using hb
    exact .of_one (hne hl) (probeChunks_single hctx.1 hstart hpos hchunk r.run r.valid)

/-- **C13 (chaos = g(text, threshold))**: for an input that fits the window, on the non-lazy path
    (at most `TOO_BIG_SEQUENCE` bytes, or a multi-byte encoding), in a world whose decoders produce
    at most one character per byte, the chaos of every regular candidate is `chaosOfText` of its
    decoded text — it depends on nothing else (not on the encoding, the BOM, the bytes). -/
theorem C13_chaos_of_text {W : World E L} {T : Tables E} {sort : Sorter E L}
    (hperm : ∀ l, (sort l).Perm l)
    (hchars : ∀ e x t, e ∈ T.supported → W.decode e x = .ok (some t) → t.length ≤ x.length)
    {b : Bytes} {s : Settings} {incl excl : List E}
    (hincl : canonList T.ianaName s.incl = .ok incl) (hexcl : canonList T.ianaName s.excl = .ok excl)
    (hfit : Fits b s) (hthr : s.thr.isNaN = false)
    {ms : List (Match E L)} (hb : b ≠ []) (h : fromBytes W T sort b s = .ok (.ok ms)) :
    ∀ m ∈ ms, ∀ c ∈ m.entries, Fl.ge c.chaos s.thr = false →
      (b.length ≤ T.tooBig ∨ T.isMultiByte c.enc = true) →
      ∃ t, c.text = some t ∧ chaosOfText W t s.thr = .ok c.chaos := by
  intro m hm c hc hge hsmall
  have hl := lazyOf_ctxOf_false (s := s) hsmall
  have f := fromBytes_entry_regular hperm hincl hexcl hthr hb h hm hc hge
  obtain ⟨p, acc, hrun, hchaos, _⟩ := f.run
  obtain ⟨t, _, ht, hw⟩ := whole_of_fits hchars hfit hb f.common (by simp [hl]) hrun
  exact ⟨t, ht, hchaos ▸ (hw (by simp [hl])).chaos⟩

/-- **C13 (same text ⇒ same chaos)**: `chaosOfText` has one value; with `C13_chaos_of_text`, two candidates
    (of the same or of different runs, encodings, inputs, with or without BOM) whose texts coincide have the
    same chaos under the same threshold, because both equal `chaosOfText` of that text -/
theorem C13_same_text_same_chaos {W : World E L} {t : Text} {thr : F32} {c1 c2 : F32}
    (h1 : chaosOfText W t thr = .ok c1) (h2 : chaosOfText W t thr = .ok c2) : c1 = c2 := by
  rw [h1] at h2; cases h2; rfl

/-- `hchars` of the theorems above for a table codec: exactly one character per byte -/
theorem table_chars_le_bytes (tbl : List Nat) (x : Bytes) (t : Text) (h : tableStrict tbl x = .ok t) :
    t.length ≤ x.length :=
  Nat.le_of_eq (tableStrict_length tbl x t h)

/-- non-vacuity: a concrete fitting window collapses -/
example : normWindow 11 5 512 = (1, 11) ∧ (List.replicate 11 65).length ≤ 512 * 5 := by
  decide +kernel

end Charset
