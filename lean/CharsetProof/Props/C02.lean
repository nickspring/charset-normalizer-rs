/-
  C02 — detection and every accessor are total: no panic on any input or settings.

  For the fully modelled world (`C02_full`) without any hypothesis about the world: every function the detection
  calls – every decoder of a supported encoding, the mess detector, the coherence detector, the merge, the
  language table – is a Lean definition that answers; so for every input (below 2^64 bytes), every Unicode
  environment and all settings with `steps ≥ 1` the model of `from_bytes` returns a value – the documented
  error or a list of matches – and never a fault (slice out of range, division by zero, failed `unwrap`,
  arithmetic overflow) nor a question to the implementation.
-/
import CharsetProof.Lemmas.Total
import CharsetProof.Lemmas.SortPerm
import CharsetProof.Props.C07
import CharsetProof.Props.C18
import CharsetProof.Generated.Inventory
import CharsetProof.Covered
import CharsetProof.Lemmas.CharsLeNow
import CharsetProof.Lemmas.Md
namespace Charset
variable {E L : Type} [DecidableEq E]

/-- **C02 (from_bytes is total)** — every operation of `from_bytes` that can panic in Rust (slice
    indexing `&bytes[a..b]` at lib.rs:341/412/451, the integer division at 397, the "entry not present"
    path at 557) is a possible `Fault` of the model. For every total world, sane constants, every
    input (empty, tiny, BOM-only, binary, > 1 MB …) and every settings with `steps ≥ 1`, the model
    returns a value: no fault is reachable, and all loops terminate (they are structural recursions). -/
theorem C02_from_bytes_total {W : World E L} {T : Tables E} {sort : Sorter E L} (hperm : ∀ l, (sort l).Perm l)
    (hW : W.Total) (hT : T.Sane) (b : Bytes) (s : Settings) (hs : 1 ≤ s.steps) :
    ∃ r, fromBytes W T sort b s = .ok r :=
  fromBytes_total hperm hT b (hW.serves (· ∈ T.supported) _) (fun _ h => h) s hs

/-- the only failure mode is the documented one: an include/exclude entry that is not a known label -/
theorem C02_only_documented_error {W : World E L} {T : Tables E} {sort : Sorter E L} {b : Bytes} {s : Settings}
    {e : Err} (h : fromBytes W T sort b s = .ok (.error e)) :
    (∃ n, e = .badInclude n ∧ n ∈ s.incl ∧ T.ianaName n = none) ∨
    (∃ n, e = .badExclude n ∧ n ∈ s.excl ∧ T.ianaName n = none) := by
  rcases fromBytes_cases W T sort b s with ⟨n, hi, h1⟩ | ⟨n, he, h1⟩ | ⟨incl, excl, _, _, ⟨_, h1⟩ | ⟨_, h1⟩⟩
  · rw [h1] at h; cases h
    exact Or.inl ⟨n, rfl, canonList_error hi⟩
  · rw [h1] at h; cases h
    exact Or.inr ⟨n, rfl, canonList_error he⟩
  · rw [h1] at h; cases h
  · rw [h1] at h
    split at h <;> cases h

/-- with `steps = 0` the Rust code divides by zero (lib.rs:397), and so does the model's division at that site – this is
    why the property's quantifier says `steps ≥ 1`.  (The statement is about `divF` at site 397 only, not about a run of
    `fromBytes`.) -/
theorem C02_steps_zero_faults : divF 397 10 0 = fault (.divZero 397) := rfl

/-- T1 obligations behind `Tables.Sane` -/
theorem tablesNow_sane : tablesNow.Sane where
  maxLeBig := by decide +kernel
  marksMb := marksMultiByte_now

theorem C02_current {W : World Name Name} (hW : W.Total) (b : Bytes) (s : Settings) (hs : 1 ≤ s.steps) :
    ∃ r, fromBytes W tablesNow sortMatches b s = .ok r :=
  C02_from_bytes_total sortMatches_perm hW tablesNow_sane b s hs

/-- accessors: `encoding_aliases()` has an entry for every reportable name (its `expect` cannot fire) -/
theorem C02_aliases_total : aliasesAvailableB = true := C18_aliases_available

/-- **T2(c) obligation** — the potential panic sites of the current source (index/slice expressions,
    `unwrap`/`expect`/`unwrap_err`, `panic!`/`assert!`, integer `/ % -`, `step_by`, sorts), per
    function, are exactly the reviewed ones, each of which is either a `Fault` operation of the model
    shown unreachable above or guarded in place (see DESIGN.md §4 C02). A new `unwrap`, a removed
    `.max(1)` next to a division, a new subtraction … changes the inventory and fails this check. -/
theorem C02_panic_sites_covered : (Inv.panicSites == Covered.panicSites) = true := by decide +kernel

/-- T1 obligation: the language table has a row for every supported encoding -/
def targetsCoverSupportedB : Bool :=
  Gen.supported.all (fun e => (lookupName Gen.targetLanguages e).isSome)

theorem targetsCoverSupported : targetsCoverSupportedB = true := by decide +kernel

/-- `n + 1 < 2 ^ 64` is the guard of `messGuarded`: longer texts are outside the mess model (the plugin counters are `u64`) -/
theorem worldFull_totalOn (menv : Md.MdEnv) (cenv : Coh.CohEnv) (o : Oracle) (n : Nat) (hn : n + 1 < 2 ^ 64) :
    (worldFull menv cenv o).TotalOn tablesNow n where
  decode := fun e he x => worldFull_decode menv cenv o ▸ decodeNow_total_supported o false he x
  decodeChunk := fun e he x => worldFull_decodeChunk menv cenv o ▸ decodeNow_total_supported o true he x
  chars := fun e he x t h => hchars_full menv cenv o e x t he h
  mess := fun t thr ht => ⟨_, messGuarded_of_lt (by omega)⟩
  coh := fun t thr ls => ⟨_, rfl⟩
  merge := fun xs => ⟨_, rfl⟩
  target := fun e he =>
    have ⟨l, hl⟩ := Option.isSome_iff_exists.mp (List.all_eq_true.mp targetsCoverSupported e he)
    ⟨l, by rw [worldFull_target]; exact worldNow_target o hl⟩

/-- **C02 (detection is total), fully modelled world, no hypothesis about the world** -/
theorem C02_full (menv : Md.MdEnv) (cenv : Coh.CohEnv) (o : Oracle) (b : Bytes) (s : Settings)
    (hs : 1 ≤ s.steps) (hlen : b.length + 1 < 2 ^ 64) :
    ∃ r, fromBytes (worldFull menv cenv o) tablesNow sortMatches b s = .ok r :=
  fromBytesOn_total sortMatches_perm tablesNow_sane b (worldFull_totalOn menv cenv o b.length hlen) s hs

/-- in particular with an empty oracle: nothing is ever asked -/
example (menv : Md.MdEnv) (cenv : Coh.CohEnv) (b : Bytes) (s : Settings) (hs : 1 ≤ s.steps)
    (hlen : b.length + 1 < 2 ^ 64) :
    ∃ r, fromBytes (worldFull menv cenv {}) tablesNow sortMatches b s = .ok r :=
  C02_full menv cenv _ b s hs hlen

end Charset
