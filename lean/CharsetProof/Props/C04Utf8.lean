/-
  C04 (last clause) — with fallback enabled and no encoding filters, any input that is valid UTF-8 yields
  at least one match (it is never classified as binary).
-/
import CharsetProof.Lemmas.Master
import CharsetProof.Lemmas.Facts
import CharsetProof.Lemmas.SortPerm
import CharsetProof.Props.C06
import CharsetProof.Lemmas.Codec
namespace Charset
variable {E L : Type} [DecidableEq E]

/-- what the probe of a hint `e` (utf-8, say) can answer on input that `e` decodes (after its own mark) -/
theorem probe_valid_hint {W : World E L} {T : Tables E} {c : Ctx E} {soft : List E} {e : E}
    (hmb : T.isMultiByte e = true) (hne16 : e ≠ T.utf16le ∧ e ≠ T.utf16be) (hnea : e ≠ T.ascii)
    (hkey : ∀ f, T.similar e f = false) (hfb : c.fallback = true) (hprio : c.prio.contains e = true)
    (hvalid : ∃ t, W.decode e (c.b.drop (startIdxOf c e)) = .ok (some t))
    {v : Verdict E L} (h : probe W T c soft e = .ok v) :
    (∃ fb, v = .softFail (some fb)) ∨ (∃ m, v = .accepted m) := by
  obtain ⟨t, ht⟩ := hvalid
  have hlazy : lazyOf T c e = false := by simp [lazyOf, hmb]
  cases probe_shape h with
  | needsBom hp =>
    cases probePrepare_shape hp with
    | needsBom hb =>
      rw [needsBomCond_eq_false_iff.mpr (.inr hne16)] at hb
      cases hb
  | undecodable hp =>
    cases probePrepare_shape hp with
    | hardFail sl _ hsl hd =>
      rw [(prepareSlice_of_not_lazy hlazy hsl).1, ht] at hd
      cases hd
  | similarSkip f hp =>
    have hsim := (probe_similarSkip h).1
    rw [hkey f] at hsim
    cases hsim
  | remainder p acc hp _ hr => simp [probeRemainder, (probePrepare_go hp).lazy, hlazy] at hr
  | soft p acc hp hc _ _ hcond =>
    obtain ⟨_, t0, _, _, hpay⟩ := (probePrepare_go hp).decoded
    rw [payloadOf_of_not_lazy hlazy] at hpay
    have hlh : acc.lazyHard = false := chunkLoop_keeps_lazyHard hnea (hpay ▸ (probeChunks_ok hc).2)
    rw [fallbackCond, hfb, hlh, hprio] at hcond
    cases hcond
  | fallback p acc fb => exact Or.inl ⟨fb, rfl⟩
  | accepted p acc _ _ m => exact Or.inr ⟨m, rfl⟩

/-- there is a result, or a fallback entry in one of the slots that `pickFallback` looks at before `fbAscii` -/
def LoopState.Served (st : LoopState E L) : Prop :=
  st.results ≠ [] ∨ st.fbSpec.isSome = true ∨ st.fbU8.isSome = true

theorem finish_ne_nil {sort : Sorter E L} (hperm : ∀ l, (sort l).Perm l) {tooBig : Nat} {st : LoopState E L}
    (h : st.Served) : finish sort tooBig st ≠ [] := by
  unfold finish
  by_cases hres : st.results = []
  · obtain ⟨fb, hpk⟩ := pickFallback_some ((h.resolve_left (· hres)).imp_right .inl)
    simp only [hres, List.isEmpty_nil, ↓reduceIte, hpk]
    exact append_ne_nil hperm
  · simp [hres]

/-- soft failures only ever fill fallback slots, and a fallback entry for an encoding other than `ascii` goes to
    `fbSpec` or `fbU8` -/
theorem softUpdate_served {T : Tables E} {c : Ctx E} {st : LoopState E L} {e : E} {fb : Option (Match E L)}
    (h : st.Served ∨ (fb.isSome = true ∧ e ≠ T.ascii)) : (softUpdate T c st e fb).Served := by
  unfold softUpdate
  split
  · exact h.resolve_right (by simp)
  · split
    · exact .inr (.inl rfl)
    · split
      · next hea => exact h.resolve_right (·.2 hea)
      · exact .inr (.inr rfl)

/-- a supported hint `e` that passes the filters and decodes the input is probed at some point, and from then on the
    state is `Served`: with fallback enabled the result is not empty -/
theorem valid_hint_nonempty {W : World E L} {T : Tables E} {sort : Sorter E L} (hperm : ∀ l, (sort l).Perm l) {e : E}
    (hsup : e ∈ T.supported) (hmb : T.isMultiByte e = true) (hne16 : e ≠ T.utf16le ∧ e ≠ T.utf16be)
    (hnea : e ≠ T.ascii) (hkey : ∀ f, T.similar e f = false)
    {b : Bytes} {s : Settings} (hb : b ≠ []) (hfb : s.fallback = true) {incl excl : List E}
    (hincl : canonList T.ianaName s.incl = .ok incl) (hexcl : canonList T.ianaName s.excl = .ok excl)
    (hal : allowed incl excl e = true) (hprio : (ctxOf T b s).prio.contains e = true)
    (hvalid : ∃ t, W.decode e (b.drop (startIdxOf (ctxOf T b s) e)) = .ok (some t))
    {ms : List (Match E L)} (h : fromBytes W T sort b s = .ok (.ok ms)) : ms ≠ [] := by
  have hprobe : ∀ {v}, probe W T (ctxOf T b s) [] e = .ok v → (∃ fb, v = .softFail (some fb)) ∨ (∃ m, v = .accepted m) :=
    probe_valid_hint hmb hne16 hnea hkey hfb hprio hvalid
  obtain ⟨out, hl, rfl⟩ := fromBytes_ok hincl hexcl hb h
  -- once `e` has been processed the state is `Served`; `Q` of the loop rule is the goal as a predicate of `out`
  apply detectLoop_rule_alone hl (fun done st => e ∈ done → st.Served) _ ?_ ?_ ?_ ?_ (by simp)
  · intro done st e' rest _ hinv hcase hmem
    rcases List.mem_append.mp hmem with hmem | hmem
    · exact hinv hmem
    · obtain rfl := List.mem_singleton.mp hmem
      rcases hcase with h0 | h1 | h1 | ⟨f, _, hsim, _⟩
      · rw [hal] at h0; cases h0
      · rcases hprobe h1 with ⟨_, hv⟩ | ⟨_, hv⟩ <;> cases hv
      · rcases hprobe h1 with ⟨_, hv⟩ | ⟨_, hv⟩ <;> cases hv
      · rw [hkey f] at hsim; cases hsim
  · intro done st e' rest fb _ hinv _ hp hmem
    refine softUpdate_served ((List.mem_append.mp hmem).imp hinv fun hmem => ?_)
    obtain rfl := List.mem_singleton.mp hmem
    rcases hprobe hp with ⟨_, hv⟩ | ⟨_, hv⟩ <;> cases hv
    exact ⟨rfl, hnea⟩
  · intro done st e' rest m _ _ _ _
    exact ⟨fun _ _ => .inl (append_ne_nil hperm), fun _ _ _ => List.cons_ne_nil _ _⟩
  · intro st hinv
    exact finish_ne_nil hperm (hinv (mem_probeOrder_iff.mpr hsup))

/-- **C04 (valid UTF-8 is never binary)** — for every world and table set in which utf-8 is a supported,
    multi-byte encoding other than ascii and utf-16 that is not a key of the similarity table (kernel-checked for the
    dumped tables): with fallback enabled and no filters, if the non-empty input (minus its own mark) strictly decodes
    as UTF-8, detection returns at least one match. -/
theorem C04_valid_utf8_nonempty {W : World E L} {T : Tables E} {sort : Sorter E L} (hperm : ∀ l, (sort l).Perm l)
    (hsup : T.utf8 ∈ T.supported) (hmb : T.isMultiByte T.utf8 = true)
    (hne16 : T.utf8 ≠ T.utf16le ∧ T.utf8 ≠ T.utf16be) (hnea : T.utf8 ≠ T.ascii)
    (hkey : ∀ f, T.similar T.utf8 f = false)
    {b : Bytes} {s : Settings} (hb : b ≠ []) (hfb : s.fallback = true)
    (hincl : canonList T.ianaName s.incl = .ok []) (hexcl : canonList T.ianaName s.excl = .ok [])
    (hvalid : ∃ t, W.decode T.utf8 (b.drop (startIdxOf (ctxOf T b s) T.utf8)) = .ok (some t))
    {ms : List (Match E L)} (h : fromBytes W T sort b s = .ok (.ok ms)) : ms ≠ [] :=
  valid_hint_nonempty hperm hsup hmb hne16 hnea hkey hb hfb hincl hexcl (allowed_nil _)
    (by simp [ctxOf, prioritized]) hvalid h

/-- the statement for every world over the current tables whose utf-8 decoder is the modelled one (`worldNow`,
    `worldFull`) -/
theorem C04_valid_utf8_tablesNow {W : World Name Name} (o : Oracle) (hW : W.decode nUTF8 = decodeNow o false nUTF8)
    {b : Bytes} {s : Settings} (hb : b ≠ []) (hfb : s.fallback = true)
    (hincl : s.incl = []) (hexcl : s.excl = [])
    (hvalid : ∃ t, utf8Strict (b.drop (startIdxOf (ctxOf tablesNow b s) nUTF8)) = .ok t)
    {ms : List (Match Name Name)} (h : fromBytes W tablesNow sortMatches b s = .ok (.ok ms)) : ms ≠ [] := by
  refine C04_valid_utf8_nonempty (W := W) (T := tablesNow) sortMatches_perm ?_ ?_ ?_ ?_ ?_ hb hfb ?_ ?_ ?_ h
  · decide +kernel
  · decide +kernel
  · exact ⟨by decide, by decide⟩
  · decide
  · exact hintsNotSimilarKeys_now nUTF8 (Or.inr (Or.inl rfl))
  · rw [hincl]; rfl
  · rw [hexcl]; rfl
  · obtain ⟨t, ht⟩ := hvalid
    refine ⟨t, ?_⟩
    show W.decode nUTF8 (b.drop (startIdxOf (ctxOf tablesNow b s) nUTF8)) = _
    rw [hW, decodeNow_utf8, ht]
    rfl

/-- **C04 (valid UTF-8 is never binary) for the current tree**: with fallback enabled and no filters, the Lean UTF-8
    automaton (the crate's DFA, tied by T3) accepts the non-empty input minus its own mark ⇒ at least one match -/
theorem C04_valid_utf8_current (o : Oracle) {b : Bytes} {s : Settings} (hb : b ≠ []) (hfb : s.fallback = true)
    (hincl : s.incl = []) (hexcl : s.excl = [])
    (hvalid : ∃ t, utf8Strict (b.drop (startIdxOf (ctxOf tablesNow b s) nUTF8)) = .ok t)
    {ms : List (Match Name Name)} (h : fromBytes (worldNow o) tablesNow sortMatches b s = .ok (.ok ms)) : ms ≠ [] :=
  C04_valid_utf8_tablesNow o (congrFun (worldNow_decode o) nUTF8) hb hfb hincl hexcl hvalid h

end Charset
