/-
  C16 for any number of inputs (report-only runs, i.e. without `--normalize`): a missing or undetectable input
  anywhere in the list ends the run with an error and no report; on success the report's entries are, up to order,
  the library's matches of the inputs (best match of every input, its alternatives only with
  `--with-alternative`, a bare entry for an input with no match), each carrying the library's fields.
-/
import CharsetProof.Props.C15
namespace Charset

def entriesOf (a : CliArgs) (detect : Bytes → Option (List MInfo)) (fs : FS) (p : Path) : List Entry :=
  match fsGet fs p with
  | none => []
  | some content =>
    match detect content with
    | none => []
    | some [] => [⟨p, none, [], none⟩]
    | some (best :: rest) =>
      ⟨p, some best.encoding, best.printed, none⟩ ::
        (if a.alternatives then rest.map (fun m => ⟨p, some m.encoding, m.printed, none⟩) else [])

def failsOn (detect : Bytes → Option (List MInfo)) (fs : FS) (p : Path) : Bool :=
  match fsGet fs p with
  | none => true
  | some content => (detect content).isNone

theorem processFile_report_only {a : CliArgs} (detect : Bytes → Option (List MInfo)) (confirm : Path → Bool)
    (hn : a.normalize = false) (st : LoopSt) (p : Path) :
    (failsOn detect st.fs p = true → ∃ e, processFile a detect confirm st p = .error e) ∧
    (failsOn detect st.fs p = false → ∃ st', processFile a detect confirm st p = .ok st' ∧ st'.fs = st.fs ∧
      st'.results.Perm (st.results ++ entriesOf a detect st.fs p)) := by
  -- the branches of `processFile`: missing file; undetectable; no match; report only; three under `--normalize`
  fun_cases processFile a detect confirm st p
  next hc => simp [failsOn, hc]
  next content hc hd => simp [failsOn, hc, hd]
  next content hc hd => simp [failsOn, entriesOf, hc, hd]
  next content hc best rest hd _ _ _ _ =>
    refine ⟨by simp [failsOn, hc, hd], fun _ => ⟨_, rfl, rfl, ?_⟩⟩
    simp only [entriesOf, hc, hd]
    -- best :: (prev ++ alts)  ~  prev ++ (best :: alts)
    exact List.perm_middle.symm
  all_goals exact absurd (by simp [hn]) ‹¬(!a.normalize) = true›

theorem processAll_report_only {a : CliArgs} (detect : Bytes → Option (List MInfo)) (confirm : Path → Bool)
    (hn : a.normalize = false) : ∀ (ps : List Path) (st : LoopSt),
    (ps.any (failsOn detect st.fs) = true → ∃ e, processAll a detect confirm ps st = .error e) ∧
    (ps.any (failsOn detect st.fs) = false → ∃ st', processAll a detect confirm ps st = .ok st' ∧
      st'.results.Perm (st.results ++ ps.flatMap (entriesOf a detect st.fs)))
  | [], st => ⟨nofun, fun _ => ⟨st, rfl, by simp⟩⟩
  | p :: ps, st => by
    obtain ⟨hfail, hok⟩ := processFile_report_only detect confirm hn st p
    simp only [processAll, List.any_cons]
    cases hf : failsOn detect st.fs p with
    | true =>
      obtain ⟨e, he⟩ := hfail hf
      rw [he]
      exact ⟨fun _ => ⟨e, rfl⟩, nofun⟩
    | false =>
      -- the file system is untouched, so the rest of the list is judged on the same one
      obtain ⟨st', hst', hfs, hperm⟩ := hok hf
      obtain ⟨ih1, ih2⟩ := processAll_report_only detect confirm hn ps st'
      rw [hfs] at ih1 ih2
      rw [hst', Bool.false_or]
      refine ⟨ih1, fun h => ?_⟩
      obtain ⟨st'', h1, h2⟩ := ih2 h
      refine ⟨st'', h1, h2.trans ?_⟩
      rw [List.flatMap_cons, ← List.append_assoc]
      exact List.Perm.append_right _ hperm

/-- **C16 (any failing input, anywhere in the list)**: a missing file or an undetectable input ends a
    report-only run with an error – no report – whatever the other inputs are -/
theorem C16_multi_failure (a : CliArgs) (detect : Bytes → Option (List MInfo)) (confirm : Path → Bool) (fs : FS)
    (hn : a.normalize = false) (p : Path) (hp : p ∈ a.files) (hf : failsOn detect fs p = true) :
    ∃ e, (runCli a detect confirm fs).1 = .error e := by
  cases hv : validate a with
  | some e => exact ⟨e, by rw [C16_validation_first a detect confirm fs e hv]⟩
  | none =>
    obtain ⟨e, he⟩ := (processAll_report_only detect confirm hn a.files ⟨fs, []⟩).1
      (List.any_eq_true.mpr ⟨p, hp, hf⟩)
    exact ⟨e, by rw [runCli_eq hv, he]; rfl⟩

/-- **C16 (the report lists exactly the library's matches)**: when every input is readable and detectable, a
    report-only run with accepted flags succeeds, touches nothing, and its entries are – up to order – the inputs' entries:
    per input the best match with the library's printed fields, the alternatives only with `-a` -/
theorem C16_multi_entries (a : CliArgs) (detect : Bytes → Option (List MInfo)) (confirm : Path → Bool) (fs : FS)
    (hv : validate a = none) (hn : a.normalize = false)
    (hall : ∀ p ∈ a.files, failsOn detect fs p = false) :
    ∃ results : List Entry, (runCli a detect confirm fs) = (.ok (report a results), fs) ∧
      results.Perm (a.files.flatMap (entriesOf a detect fs)) := by
  obtain ⟨st', h1, h2⟩ := (processAll_report_only detect confirm hn a.files ⟨fs, []⟩).2
    (List.any_eq_false.mpr fun q hq => by simp [hall q hq])
  refine ⟨st'.results, Prod.ext ?_ (C15_no_normalize_no_write a detect confirm fs hn), by simpa using h2⟩
  rw [runCli_eq hv, h1]; rfl

end Charset
