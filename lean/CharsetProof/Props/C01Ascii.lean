/-
  C01, the `ascii` clause.  The clause "a candidate named ascii implies
  every input byte < 0x80" fails when non-ASCII bytes lie outside the sampled chunks (known finding).  When the
  input fits the analysis window there is nothing outside the sampled chunk: the single chunk is the whole
  text, `is_invalid_chunk` looks at all of it, and the clause holds – for every size, lazy path included.
-/
import CharsetProof.Props.C13
import CharsetProof.Lemmas.CharsLeNow
import CharsetProof.Lemmas.Indexed
namespace Charset
variable {E L : Type} [DecidableEq E]

/-- **C01 (ascii clause, inputs that fit the window)** – partial: when the input is no longer than
    `steps × chunk_size`, every candidate named `ascii` (main encoding, alternative, or the fallback match) implies that every
    input byte is below 0x80.  World hypotheses: the single-byte laws of C01, one character per byte at most, and
    `hascii` – the `ascii` decoder maps bytes ≥ 0x80 to non-ASCII characters (kernel-checked for the dumped
    windows-1252 table that `ascii` resolves to: `asciiLaw_now`).  The hypothesis `Fits` excludes
    the recorded finding (non-ASCII bytes outside the sampled chunks). -/
theorem C01_ascii_fit_partial {W : World E L} {T : Tables E} {sort : Sorter E L}
    (hperm : ∀ l, (sort l).Perm l) (hmb : ∀ em ∈ T.marks, T.isMultiByte em.1 = true) (laws : LazyLaws W T)
    (hchars : ∀ e x t, e ∈ T.supported → W.decode e x = .ok (some t) → t.length ≤ x.length)
    (hsb : T.isMultiByte T.ascii = false)
    (hascii : ∀ x t, W.decode T.ascii x = .ok (some t) → isAsciiText t = true → x.all (· < 128) = true)
    {b : Bytes} {s : Settings} {incl excl : List E}
    (hincl : canonList T.ianaName s.incl = .ok incl) (hexcl : canonList T.ianaName s.excl = .ok excl)
    (hfit : Fits b s)
    {ms : List (Match E L)} (hb : b ≠ []) (h : fromBytes W T sort b s = .ok (.ok ms)) :
    ∀ m ∈ ms, ∀ c ∈ m.entries, c.enc = T.ascii → b.all (· < 128) = true := by
  intro m hm c hc henc
  -- regular and fallback entries alike went through a chunk analysis in which no chunk was invalid
  have f := fromBytes_entry_common hperm hincl hexcl hb h hm hc
  obtain ⟨p, acc, hrun⟩ := f.chunks
  obtain ⟨t, hdec, _, hw⟩ := whole_of_fits hchars hfit hb f (fun _ => ⟨hmb, laws⟩) hrun
  -- `ascii` carries no mark: the whole input is what gets decoded
  rw [stripMark_single_byte hmb (henc ▸ hsb), henc] at hdec
  refine hascii b t hdec ?_
  by_cases hte : t = []
  · subst hte; rfl
  · exact validChunk_ascii (henc ▸ (hw fun _ => hte).valid)

/-- T1 obligation: in the table the name `ascii` resolves to (windows-1252), bytes ≥ 0x80 map to characters ≥ U+0080 -/
def asciiTableOkB : Bool :=
  match codecNow tablesNow.ascii with
  | some (.table tbl) => (List.range tbl.length).all (fun i => decide (i < 128) || decide (128 ≤ tbl[i]?.getD 0))
  | _ => false

theorem asciiTableOk : asciiTableOkB = true := by
  -- evaluated as one pass over the table: looking up `tbl[i]?` for every `i` is quadratic, and slow in the kernel
  have : asciiTableOkB = (match codecNow tablesNow.ascii with
      | some (.table tbl) => tbl.zipIdx.all (fun xi => decide (xi.2 < 128) || decide (128 ≤ xi.1))
      | _ => false) := by
    unfold asciiTableOkB
    generalize codecNow tablesNow.ascii = c
    cases c with
    | none => rfl
    | some c =>
      cases c with
      | table tbl => exact all_range_getD tbl 0 fun i x => decide (i < 128) || decide (128 ≤ x)
      | _ => rfl
  rw [this]
  decide +kernel

theorem asciiSingleByte_now : tablesNow.isMultiByte tablesNow.ascii = false := by decide +kernel

theorem asciiLaw_now (o : Oracle) : ∀ x t, (worldNow o).decode tablesNow.ascii x = .ok (some t) →
    isAsciiText t = true → x.all (· < 128) = true := by
  intro x t hx ha
  have hok := asciiTableOk
  unfold asciiTableOkB at hok
  split at hok
  · next tbl hc =>
    rw [worldNow_decode, decodeNow_table_some hc asciiSingleByte_now] at hx
    refine tableStrict_ascii_bytes tbl (fun i v hi hv => ?_) x t hx ha
    obtain ⟨hlt, _⟩ := List.getElem?_eq_some_iff.mp hv
    have := List.all_eq_true.mp hok i (List.mem_range.mpr hlt)
    simp only [Bool.or_eq_true, decide_eq_true_eq, hv, Option.getD_some] at this
    omega
  · cases hok

/-- **C01 ascii clause for the current tree, inputs that fit the window** -/
theorem C01_ascii_fit_current (o : Oracle)
    {b : Bytes} {s : Settings} {incl excl : List Name}
    (hincl : canonList ianaNow s.incl = .ok incl) (hexcl : canonList ianaNow s.excl = .ok excl)
    (hfit : Fits b s)
    {ms : List (Match Name Name)} (hb : b ≠ [])
    (h : fromBytes (worldNow o) tablesNow sortMatches b s = .ok (.ok ms)) :
    ∀ m ∈ ms, ∀ c ∈ m.entries, c.enc = tablesNow.ascii → b.all (· < 128) = true :=
  C01_ascii_fit_partial sortMatches_perm marksMultiByte_now (lazyLaws_now o) (hchars_now o) asciiSingleByte_now (asciiLaw_now o)
    hincl hexcl hfit hb h

end Charset
