/-
  C19 at detection level for the fully modelled world: a candidate of an input that fits the window
  reports coherence_ratio's list of its whole text, sorted – the merge step leaves single-chunk scores
  untouched (x + 0 = x and x / 1 = x in the float model, `zero_add_nn`, `div_one_nn` in Lemmas/F32.lean).
-/
import CharsetProof.Props.C13
import CharsetProof.Lemmas.CharsLeNow
import CharsetProof.Props.C04Coherence
import CharsetProof.Lemmas.Single
namespace Charset
open Fl

/-- **C19 at detection level (fully modelled world)** — for an input that fits the window, on the non-lazy
    path, every regular candidate whose encoding is not `ascii` reports exactly what `coherence_ratio`
    says about its whole decoded text for the encoding's target languages, sorted by score (nothing for the
    empty text): the scores are untouched by the merge step. That the list is ordered by score, that a language
    is listed iff `coherence_ratio` lists it, and that `coherence()` is the best score is read off `sortDesc r`.
    `henv`: lower-casing stays within the code points. -/
theorem C19_single_chunk_full (menv : Md.MdEnv) (cenv : Coh.CohEnv) (o : Oracle)
    (henv : ∀ c x, x ∈ cenv.lower c → x < 0x110000)
    {b : Bytes} {s : Settings} {incl excl : List Name}
    (hincl : canonList ianaNow s.incl = .ok incl) (hexcl : canonList ianaNow s.excl = .ok excl)
    (hfit : Fits b s) (hthr : s.thr.isNaN = false)
    {ms : List (Match Name Name)} (hb : b ≠ [])
    (h : fromBytes (worldFull menv cenv o) tablesNow sortMatches b s = .ok (.ok ms)) :
    ∀ m ∈ ms, ∀ c ∈ m.entries, Fl.ge c.chaos s.thr = false →
      (b.length ≤ tablesNow.tooBig ∨ tablesNow.isMultiByte c.enc = true) → c.enc ≠ tablesNow.ascii →
      ∃ t langs, c.text = some t ∧ (worldFull menv cenv o).target c.enc = .ok langs ∧
        c.cohs = (if t.isEmpty then [] else
          match Coh.coherenceRatio cenv Gen.unicodeRanges Gen.secondaryKeywords Gen.languages Gen.tooSmall
              t s.langThr langs with
          | some r => sortDesc r
          | none => []) := by
  intro m hm c hc hge hsmall hnasc
  have hl := lazyOf_ctxOf_false (s := s) hsmall
  have f := fromBytes_entry_regular sortMatches_perm hincl hexcl hthr hb h hm hc hge
  obtain ⟨p, acc, hrun, _, cdl, hcds, hmerge⟩ := f.run
  obtain ⟨t0, _, ht, hw⟩ := whole_of_fits (hchars_full menv cenv o) hfit hb f.common (by simp [hl]) hrun
  have hchunks := (hw (by simp [hl])).chunks
  have hcohs : mergeModel cdl = c.cohs := Except.ok.inj hmerge
  obtain ⟨he, _⟩ | ⟨_, langs, htar, hcds⟩ := cdsOf_ok hcds
  · exact absurd he hnasc
  · rw [hchunks] at hcds
    refine ⟨t0, langs, ht, htar, ?_⟩
    rw [← hcohs]
    by_cases hemp : t0.isEmpty = true
    · rw [if_pos hemp] at hcds ⊢
      cases hcds
      exact mergeModel_nil
    · rw [if_neg hemp] at hcds ⊢
      -- one chunk: `cdl` holds what `coherence_ratio` says about it, if anything
      have hcoh : (worldFull menv cenv o).coh t0 (ctxOf tablesNow b s).langThr langs =
          .ok (Coh.coherenceRatio cenv Gen.unicodeRanges Gen.secondaryKeywords Gen.languages Gen.tooSmall
            t0 s.langThr langs) := rfl
      simp only [cohAll, hcoh, Except.ok.injEq] at hcds
      subst hcds
      cases hr : Coh.coherenceRatio cenv Gen.unicodeRanges Gen.secondaryKeywords Gen.languages Gen.tooSmall
          t0 s.langThr langs with
      | none => exact mergeModel_nil
      | some r =>
        exact mergeModel_single r (Coh.coherenceRatio_nodup hr)
          -- scores `≤ 1` are finite and non-negative
          (fun q hq => AtMost.nn_of_lt good32
            (Coh.coherenceRatio_scores_le_one henv languagesNow_short hr q hq) (by decide))

end Charset
