/-
  C12 — concurrent detections are independent.
  Theorems about the interleaving semantics of the `#[cached]` lock protocol (`Model/Conc.lean`):
  for every number of threads and EVERY schedule, safety (every returned value is the body's value
  for the thread's own key; the cache stays correct), mutual exclusion bookkeeping, and progress
  (some thread is always enabled until all are done; every enabled step decreases a rank: no deadlock,
  no livelock).
-/
import CharsetProof.Model.Conc
import CharsetProof.Props.C11
import CharsetProof.Covered
import CharsetProof.Lemmas.Threads
set_option linter.unusedSectionVars false
namespace Charset
variable {K V : Type} [DecidableEq K]

def pcVal : PC V → Option V
  | .computed v => some v
  | .locked2 v => some v
  | .done v => some v
  | _ => none

structure Good (f : K → V) (s : Sys K V) : Prop where
  cacheOk : CacheOk f s.cache
  vals : ∀ (i : Nat) (t : Thread K V), s.threads[i]? = some t → ∀ v, pcVal t.pc = some v → v = f t.key
  holder : ∀ (i : Nat), s.lock = some i → ∃ t : Thread K V, s.threads[i]? = some t ∧ holdsLock t.pc = true
  excl : ∀ (i : Nat) (t : Thread K V), s.threads[i]? = some t → holdsLock t.pc = true → s.lock = some i

theorem initSys_pc {cache : CacheEntries K V} {keys : List K} {i : Nat} {t : Thread K V}
    (ht : (initSys cache keys).threads[i]? = some t) : t.pc = .start := by
  simp only [initSys, List.getElem?_map, Option.map_eq_some_iff] at ht
  obtain ⟨k, _, rfl⟩ := ht; rfl

theorem good_init (f : K → V) (cache : CacheEntries K V) (h : CacheOk f cache) (keys : List K) :
    Good f (initSys cache keys) := by
  refine ⟨h, ?_, ?_, ?_⟩
  · intro i t ht v hv; rw [initSys_pc ht] at hv; cases hv
  · intro i hi; cases hi
  · intro i t ht hh; rw [initSys_pc ht] at hh; cases hh

/-- Thread `i` moves from `pc` to `pc'`: the invariant survives if the new counter carries the body's value and the
    mutex follows the counters (`Owned.set`).  Every step of the protocol is an instance; with the counters given as
    constructors, `hl` holds by `rfl` and `hfree` by `nofun` unless the step takes the mutex. -/
theorem Good.set {f : K → V} {s : Sys K V} {i : Nat} {t : Thread K V} (h : Good f s)
    (hti : s.threads[i]? = some t) {pc pc' : PC V} (hpc : t.pc = pc) {cache' : CacheEntries K V} {lock' : Option Nat}
    (hc : CacheOk f cache') (hv : ∀ v, pcVal pc' = some v → v = f t.key)
    (hl : lock' = if holdsLock pc' then some i else if holdsLock pc then none else s.lock)
    (hfree : holdsLock pc' = true → holdsLock pc = true ∨ s.lock = none) :
    Good f ⟨cache', lock', s.threads.set i { t with pc := pc' }⟩ := by
  subst hpc
  have hown : Owned (fun (t : Thread K V) (_ : Unit) => holdsLock t.pc = true) (fun _ => s.lock) s.threads :=
    ⟨fun _ i => h.holder i, fun i t _ => h.excl i t⟩
  have ho := hown.set (locks' := fun _ => lock') (t' := { t with pc := pc' }) hti (fun _ => hl) (fun _ => hfree)
  exact ⟨hc, forall_getElem?_set h.vals hv, fun i => ho.holder () i, fun i t => ho.excl i t ()⟩

/-- **C12 (safety step)** — one atomic step of any thread preserves the invariant -/
theorem good_step (f : K → V) (ev : Evict K V) (s : Sys K V) (i : Nat) (h : Good f s) :
    Good f (stepThread f ev s i) := by
  -- a thread that is absent, waits for the mutex or has returned changes nothing (the first two cases and the last)
  fun_cases stepThread f ev s i
  · exact h
  · exact h
  next t hti hen hpc =>                    -- `start`
    exact h.set hti hpc h.cacheOk nofun rfl fun _ => .inr (by simpa [enabled, hpc] using hen)
  next t hti _ hpc v hg =>                 -- `locked1`, hit
    exact h.set hti hpc h.cacheOk (by simpa [pcVal] using h.cacheOk.get hg) rfl nofun
  next t hti _ hpc _ =>                    -- `locked1`, miss
    exact h.set hti hpc h.cacheOk nofun rfl nofun
  next t hti _ hpc =>                      -- `compute`
    exact h.set hti hpc h.cacheOk (by simp [pcVal]) rfl nofun
  next t hti hen v hpc =>                  -- `computed`
    exact h.set hti hpc h.cacheOk (by simpa [pcVal, hpc] using h.vals i t hti) rfl
      fun _ => .inr (by simpa [enabled, hpc] using hen)
  next t hti _ v hpc =>                    -- `locked2`
    have hv : v = f t.key := h.vals i t hti v (by simp [pcVal, hpc])
    exact h.set hti hpc (h.cacheOk.insert ev hv) (by simpa [pcVal] using hv) rfl nofun
  · exact h

/-- **C12 (safety, all schedules)** — after ANY schedule from a correct (cold or warm) cache, every
    thread that has returned holds the body's value for its own key, and the cache is still correct
    (nothing poisoned for later calls) -/
theorem C12_safety (f : K → V) (ev : Evict K V) (sched : List Nat) (s : Sys K V) (h : Good f s) :
    Good f (runSchedule f ev sched s) := by
  induction sched generalizing s with
  | nil => exact h
  | cons i is ih => exact ih _ (good_step f ev s i h)

theorem C12_results (f : K → V) (ev : Evict K V) (cache : CacheEntries K V) (hc : CacheOk f cache)
    (keys : List K) (sched : List Nat) :
    ∀ (i : Nat) (t : Thread K V) (v : V), (runSchedule f ev sched (initSys cache keys)).threads[i]? = some t →
      t.pc = PC.done v → v = f t.key := by
  intro i t v ht hpc
  have := C12_safety f ev sched _ (good_init f cache hc keys)
  exact this.vals i t ht v (by simp [pcVal, hpc])

def rank : PC V → Nat
  | .start => 5
  | .locked1 => 4
  | .compute => 3
  | .computed _ => 2
  | .locked2 _ => 1
  | .done _ => 0

def totalRank (s : Sys K V) : Nat := (s.threads.map (fun t => rank t.pc)).sum

theorem enabled_of_holdsLock {pc : PC V} {lock : Option Nat} (h : holdsLock pc = true) : enabled lock pc = true := by
  cases pc <;> simp_all [holdsLock, enabled]

theorem enabled_free (pc : PC V) : enabled none pc = !isDone pc := by cases pc <;> rfl

/-- **C12 (no deadlock)** — in every `Good` (so every reachable) state in which some thread has not returned, some
    thread is enabled: the lock holder if there is one (it never waits while holding the mutex),
    any unfinished thread otherwise -/
theorem C12_no_deadlock (f : K → V) (s : Sys K V) (h : Good f s)
    (hunfinished : ∃ (i : Nat) (t : Thread K V), s.threads[i]? = some t ∧ isDone t.pc = false) :
    ∃ (i : Nat) (t : Thread K V), s.threads[i]? = some t ∧ enabled s.lock t.pc = true := by
  cases hl : s.lock with
  | some j =>
    obtain ⟨t, ht, hh⟩ := h.holder j hl
    exact ⟨j, t, ht, enabled_of_holdsLock hh⟩
  | none =>
    obtain ⟨i, t, ht, hd⟩ := hunfinished
    exact ⟨i, t, ht, by rw [enabled_free, hd]; rfl⟩

/-- **C12 (progress)** — every enabled step strictly decreases the total rank (≤ 5 per thread).  Together with
    `C12_no_deadlock` this is what rules out livelock; the conclusion "every maximal schedule is finite and ends with all
    threads returned" is not itself stated as a theorem. -/
theorem C12_step_decreases (f : K → V) (ev : Evict K V) (s : Sys K V) (i : Nat) (t : Thread K V)
    (ht : s.threads[i]? = some t) (hen : enabled s.lock t.pc = true) :
    totalRank (stepThread f ev s i) < totalRank s := by
  have key : ∀ pc', rank pc' < rank t.pc →
      ((s.threads.set i { t with pc := pc' }).map (fun t => rank t.pc)).sum < totalRank s :=
    fun _ hlt => sum_map_set_lt (fun t => rank t.pc) ht hlt
  unfold stepThread
  simp only [ht, hen, Bool.not_true, Bool.false_eq_true, ↓reduceIte]
  cases hpc : t.pc <;> simp only
  case done => simp [enabled, hpc] at hen
  case locked1 => cases cacheGet s.cache t.key <;> exact key _ (by simp [rank, hpc])
  all_goals exact key _ (by simp [rank, hpc])

/-- **T2(d) obligation** — the global mutable state of the current source is exactly the reviewed list
    (immutable `Lazy` tables, plain constants and the four `Mutex`-guarded memo caches generated by
    `#[cached]`); a new `static mut`, `Mutex`, `RefCell`, `thread_local!`, `unsafe` or atomic is an
    uncovered site and fails this check -/
theorem C12_globals_covered : (Inv.globals == Covered.globals) = true := by decide +kernel

/-- the memoised functions are the ones of C11 (no `sync_writes`, which would hold a lock across the
    body; no new cached function) -/
theorem C12_cached_inventory : cachedInventoryOkB = true := C11_cached_inventory

/-- non-vacuity: two threads on the same key, one concrete interleaving, both return f k -/
example :
    let f : Nat → Nat := fun k => k * 2
    let ev : Evict Nat Nat := ⟨id, fun _ _ h => h⟩
    let s := runSchedule f ev [0, 1, 0, 1, 1, 0, 0, 1, 1, 1, 0, 0, 1, 0, 1, 0, 1, 0, 1, 0, 1] (initSys [] [7, 7])
    s.threads.map (fun t => t.pc) = [.done 14, .done 14] := by
  decide +kernel

end Charset
