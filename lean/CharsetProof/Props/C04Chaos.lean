/-
  C04 (c) — "every returned match has a finite chaos with 0 <= chaos < threshold": the lower bound and
  finiteness.  `C04_threshold`/`C04_lt` give `chaos < threshold`; here `0 ≤ chaos`, not NaN, finite,
  first for every world whose `mess` is non-negative (`C04_chaos_range`), then for the current tree
  with the eight plugins of `md/plugins.rs` modelled (`C04_chaos_range_md`, and `C04_chaos_range_full` for the fully
  modelled world), where that hypothesis is the theorem `Md.messRatio_ok`.
-/
import CharsetProof.Props.C04
import CharsetProof.Lemmas.EntryFacts
import CharsetProof.Lemmas.Md
import CharsetProof.Lemmas.Single
import CharsetProof.Lemmas.Lookup
import CharsetProof.Model.MdWorld
import CharsetProof.Model.WorldFull
import CharsetProof.Generated.Inventory
namespace Charset
variable {E L : Type} [DecidableEq E]
open Fl

/-- **C04 (c)** — for every world whose mess detector returns non-negative numbers, every tables,
    permutation-sort, non-empty input and settings with `steps < 2^62`: every candidate of every
    regular match has `0 ≤ chaos`, chaos is a number, and (threshold being a number) chaos is
    finite and `< threshold`; otherwise the result is the single fallback match of `C04_threshold`. -/
theorem C04_chaos_range {W : World E L} {T : Tables E} {sort : Sorter E L}
    (hperm : ∀ l, (sort l).Perm l)
    (hmess : ∀ t thr r, W.mess t thr = .ok r → Ok r)
    {b : Bytes} {s : Settings} {incl excl : List E} (hsteps : s.steps < 2 ^ 62)
    (hthr : s.thr.isNaN = false)
    (hincl : canonList T.ianaName s.incl = .ok incl) (hexcl : canonList T.ianaName s.excl = .ok excl)
    {ms : List (Match E L)} (hb : b ≠ []) (h : fromBytes W T sort b s = .ok (.ok ms)) :
    (∀ m ∈ ms, ∀ c ∈ m.entries,
        0 ≤ c.chaos.key ∧ c.chaos.isNaN = false ∧ c.chaos.isFinite = true ∧ Fl.lt c.chaos s.thr = true) ∨
    (∃ fb, ms = [fb] ∧ fb.subs = [] ∧ fb.chaos = s.thr ∧ s.fallback = true ∧ fb.enc ∈ hintsOf T b s) := by
  rcases C04_threshold hperm hincl hexcl hb h with hall | ⟨fb, rfl, h1, h2, h3, h4, _⟩
  · left
    intro m hm c hc
    have hbelow := (hall m hm).2 c hc
    have f := fromBytes_entry_regular hperm hincl hexcl hthr hb h hm hc hbelow
    obtain ⟨p, acc, hrun, hch, _⟩ := f.run
    have hlen := (probeChunks_len hrun.run).1
    have hst : (ctxOf T b s).steps ≤ max s.steps 1 := normWindow_steps_le
    have hok : Ok c.chaos := by
      rw [hch]
      -- at most 2·steps ratios: `steps < 2^62` keeps their number a u64 that f32 rounds to a finite value
      refine meanRatio_ok _ (fun r hr => ?_) (by omega)
      obtain ⟨t, ht⟩ := probeChunks_ratios hrun.run r hr
      exact hmess _ _ _ ht
    have hnan := ok_not_nan hok
    have hlt := Fl.lt_of_not_ge hnan hthr hbelow
    exact ⟨hok.1, hnan, finite_of_lt hok hlt, hlt⟩
  · exact .inr ⟨fb, rfl, h1, h2, h3, h4⟩

theorem worldMd_mess_ok (env : Md.MdEnv) (o : Oracle) :
    ∀ t thr r, (worldMd env o).mess t thr = .ok r → Ok r := messGuarded_ok env

/-- **C04 (c), current tree, mess detector modelled** — no hypothesis about the mess detector is left:
    for every Unicode table `env`, every oracle for the remaining components, every non-empty input and all settings with
    `steps < 2^62` and a threshold that is a number -/
theorem C04_chaos_range_md (env : Md.MdEnv) (o : Oracle) {b : Bytes} {s : Settings} {incl excl : List Name}
    (hsteps : s.steps < 2 ^ 62) (hthr : s.thr.isNaN = false)
    (hincl : canonList ianaNow s.incl = .ok incl) (hexcl : canonList ianaNow s.excl = .ok excl)
    {ms : List (Match Name Name)} (hb : b ≠ [])
    (h : fromBytes (worldMd env o) tablesNow sortMatches b s = .ok (.ok ms)) :
    (∀ m ∈ ms, ∀ c ∈ m.entries,
        0 ≤ c.chaos.key ∧ c.chaos.isNaN = false ∧ c.chaos.isFinite = true ∧ Fl.lt c.chaos s.thr = true) ∨
    (∃ fb, ms = [fb] ∧ fb.subs = [] ∧ fb.chaos = s.thr ∧ s.fallback = true ∧ fb.enc ∈ hintsOf tablesNow b s) :=
  C04_chaos_range sortMatches_perm (worldMd_mess_ok env o) hsteps hthr hincl hexcl hb h

/-- **the anchor "every detector plugin returns a non-negative ratio, division guarded"**, for their sum `mess_ratio`
    (per plugin: `Md.P1.ratio_ok` … `Md.P8.ratio_ok`, Lemmas/Md.lean) -/
theorem C04_mess_ratio_nonneg (env : Md.MdEnv) (t : Text) (thr : F32) (ht : t.length + 1 < 2 ^ 64) :
    0 ≤ (Md.messRatio env t thr).key ∧ (Md.messRatio env t thr).isNaN = false :=
  ⟨(Md.messRatio_ok env t thr ht).1, ok_not_nan (Md.messRatio_ok env t thr ht)⟩

/-- tie T2: the flag bits the model tests are the ones `md/structs.rs` declares, and the order in which
    the ratios are summed is the order of the `detectors` vector in `md.rs` (float addition is not
    associative) – re-extracted from the source text on every run -/
theorem C04_md_flags_covered :
    (Inv.mdFlags == Md.flagTable.map (fun p => (nameOfStr p.1, p.2))) = true ∧
    (Inv.mdDetectors == Md.detectorOrder.map nameOfStr) = true := by
  simp only [Md.flagTable, Md.detectorOrder, List.map]
  -- `repeat` would hide it if the rewrite stopped applying; the plain `rw` does not
  rw [nameOfStr_ofList]
  repeat rw [nameOfStr_ofList]
  decide +kernel

/-- non-vacuity: the guards matter – without the `character_count == 0` guard the first plugin would
    compute `0/0`, which is NaN in the float model -/
example : (Fl.div (Fl.ofNat fmt32 0) (Fl.ofNat fmt32 0) : F32).isNaN = true := by decide +kernel

/-- **C04 (c) for the fully modelled world** -/
theorem C04_chaos_range_full (menv : Md.MdEnv) (cenv : Coh.CohEnv) (o : Oracle) {b : Bytes} {s : Settings}
    {incl excl : List Name} (hsteps : s.steps < 2 ^ 62) (hthr : s.thr.isNaN = false)
    (hincl : canonList ianaNow s.incl = .ok incl) (hexcl : canonList ianaNow s.excl = .ok excl)
    {ms : List (Match Name Name)} (hb : b ≠ [])
    (h : fromBytes (worldFull menv cenv o) tablesNow sortMatches b s = .ok (.ok ms)) :
    (∀ m ∈ ms, ∀ c ∈ m.entries,
        0 ≤ c.chaos.key ∧ c.chaos.isNaN = false ∧ c.chaos.isFinite = true ∧ Fl.lt c.chaos s.thr = true) ∨
    (∃ fb, ms = [fb] ∧ fb.subs = [] ∧ fb.chaos = s.thr ∧ s.fallback = true ∧ fb.enc ∈ hintsOf tablesNow b s) :=
  C04_chaos_range sortMatches_perm (W := worldFull menv cenv o) (messGuarded_ok menv) hsteps hthr hincl hexcl hb h

end Charset
