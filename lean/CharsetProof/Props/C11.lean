/-
  C11 — memoisation is unobservable. The invariant is `CacheOk` (every cached value is what the body computes for
  its key); eviction only drops entries, so it keeps it. The second half (tie T2(a)) compares the `#[cached]` items found in
  the source with the four the model covers.
-/
import CharsetProof.Lemmas.Memo
import CharsetProof.Model.Detect
import CharsetProof.Generated.Inventory
import CharsetProof.Lemmas.Lookup
namespace Charset
variable {K V : Type} [DecidableEq K]

/-- **C11 (one call)** — with a correct cache a memoised call returns exactly what the body computes,
    and leaves a correct cache, whatever the eviction policy does -/
theorem memoCall_correct (f : K → V) (ev : Evict K V) (c : CacheEntries K V) (k : K) (h : CacheOk f c) :
    (memoCall f ev c k).1 = f k ∧ CacheOk f (memoCall f ev c k).2 := by
  unfold memoCall
  cases hg : cacheGet c k with
  | some v => exact ⟨h.get hg, h⟩
  | none => exact ⟨rfl, h.insert ev rfl⟩

/-- **C11 (all histories)** — after *any* sequence of earlier calls on *any* keys, with *any*
    eviction behaviour at every step (cold, warm, full, evicting), every call of the history – in
    particular the last one – returns the body's value for its key -/
theorem memoRun_correct (f : K → V) (hist : List (K × Evict K V)) (c : CacheEntries K V) (h : CacheOk f c) :
    (memoRun f hist c).1 = hist.map (fun p => f p.1) ∧ CacheOk f (memoRun f hist c).2 := by
  induction hist generalizing c with
  | nil => exact ⟨rfl, h⟩
  | cons p rest ih =>
    obtain ⟨k, ev⟩ := p
    have h1 := memoCall_correct f ev c k h
    have h2 := ih (memoCall f ev c k).2 h1.2
    simp only [memoRun, List.map_cons]
    exact ⟨by rw [h1.1, h2.1], h2.2⟩

theorem C11_history_independent (f : K → V) (h1 h2 : List (K × Evict K V)) (k : K) (ev : Evict K V) :
    (memoRun f (h1 ++ [(k, ev)]) []).1.getLast? = (memoRun f (h2 ++ [(k, ev)]) []).1.getLast? := by
  rw [(memoRun_correct f _ [] (CacheOk.nil f)).1, (memoRun_correct f _ [] (CacheOk.nil f)).1]
  simp

/-- the memoised functions enter the detection only as the fields of the world: replacing `mess_ratio` & co. by
    memoised versions that return the same values (`memoRun_correct`) is unobservable -/
theorem C11_world_ext {E L : Type} [DecidableEq E] (W W' : World E L) (T : Tables E) (sort : Sorter E L)
    (hd : W.decode = W'.decode) (hc : W.decodeChunk = W'.decodeChunk) (hm : W.mess = W'.mess)
    (hco : W.coh = W'.coh) (hmg : W.merge = W'.merge) (ht : W.target = W'.target) (b : Bytes) (s : Settings) :
    fromBytes W T sort b s = fromBytes W' T sort b s := by
  cases W
  cases W'
  subst hd hc hm hco hmg ht
  rfl

/-- the `#[cached]` items found in /repo's source on this run: (file, fn, attribute, parameters) -/
def cachedNow : List (Name × Name × Name × Name) := Inv.cached

/-- expected inventory: four memoised functions, none with `key`/`convert` dropping an argument,
    none with `result`/`option`/`time`/`sync_writes`; `new_mess_detector_character` converts its only
    argument. A new, changed or vanished `#[cached]` item changes `Inv.cached` and fails this check. -/
def cachedCovered : List (String × String) := [
  ("src/cd.rs", "coherence_ratio"),
  ("src/cd.rs", "encoding_languages"),
  ("src/md.rs", "mess_ratio"),
  ("src/md/structs.rs", "new_mess_detector_character")]

def attrsCovered : List String := [
  "#[cached(size = 2048)]",
  "#[cached(size = 128)]",
  "#[cached(size = 2048)]",
  "#[cached( ty = \"UnboundCache<char, MessDetectorChar>\", create = \"{ UnboundCache::with_capacity(UTF8_MAXIMAL_ALLOCATION) }\", convert = r#\"{ character }\"# )]"]

def cachedInventoryOkB : Bool :=
  (cachedNow.map (fun x => (x.1, x.2.1))) == cachedCovered.map (fun p => (nameOfStr p.1, nameOfStr p.2)) &&
  (cachedNow.map (fun x => x.2.2.1)) == attrsCovered.map nameOfStr

theorem C11_cached_inventory : cachedInventoryOkB = true := by
  simp only [cachedInventoryOkB, cachedCovered, attrsCovered, List.map]
  rw [nameOfStr_ofList]
  repeat rw [nameOfStr_ofList]
  decide +kernel

end Charset
