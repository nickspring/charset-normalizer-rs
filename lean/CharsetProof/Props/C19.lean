/-
  C19 — languages are listed by score; the language threshold is a pure cut-off.

  The full statement ("a language is listed exactly when its score reaches the threshold, so raising
  the threshold up to 0.8 only ever removes languages") is FALSE for the code as written (and for
  upstream Python): once three scores ≥ 0.8 have been recorded, every later alphabet layer stops at
  its *first* language that reaches the threshold, so a higher threshold can let a different language
  of that layer through (`C19_counterexample`). What is proved is the statement under the hypothesis
  the proof forces – fewer than three "sufficient" scores overall (`Calm`) – which in particular
  covers texts with a single alphabet layer whose counter stays below three before its end.
  (The `_partial` statements also assume a threshold not above 0.8, `ThrOk`; `cohLayers_calm` does without.)
-/
import CharsetProof.Lemmas.Coh
set_option linter.unusedSectionVars false
namespace Charset
variable {L : Type} [DecidableEq L]

/-- all (language, score) pairs of all layers, in evaluation order -/
def allPairs (score : Nat → L → F32) (cands : Nat → List L) (layers : List Nat) : List (L × F32) :=
  layers.flatMap (fun i => (cands i).map (fun l => (l, score i l)))

def suffCount (ps : List (L × F32)) : Nat := (ps.filter (fun p => Fl.ge p.2 sufficient)).length

/-- a threshold not above 0.8 never hides a sufficient score -/
def ThrOk (thr : F32) : Prop := ∀ r : F32, Fl.ge r sufficient = true → Fl.lt r thr = false

theorem thrOk_of_le (thr : F32) (hle : thr.key ≤ sufficient.key) : ThrOk thr := by
  intro r hr
  refine Bool.eq_false_iff.mpr fun hlt => ?_
  -- `0.8 ≤ r < thr ≤ 0.8` on keys
  have := (Fl.ge_iff.mp hr).2.2
  have := (Fl.lt_iff.mp hlt).2.2
  omega

theorem suffCount_cons (p : L × F32) (ps : List (L × F32)) :
    suffCount (p :: ps) = (if Fl.ge p.2 sufficient = true then 1 else 0) + suffCount ps := by
  unfold suffCount
  rw [List.filter_cons]
  split <;> simp <;> omega

theorem suffCount_append (a b : List (L × F32)) : suffCount (a ++ b) = suffCount a + suffCount b := by
  simp [suffCount, List.filter_append]

/-- While the counter cannot reach three, a layer keeps exactly the scores that reach the threshold.  Nothing is asked
    of the threshold: a score below it is skipped whether sufficient or not, and the hypothesis counts it all the same. -/
theorem cohLayer_calm (thr : F32) (score : L → F32) :
    ∀ (ls : List L) (suff : Nat), suff + suffCount (ls.map fun l => (l, score l)) < 3 →
      (cohLayer thr score ls suff).1 = (ls.map fun l => (l, score l)).filter (fun p => !Fl.lt p.2 thr) ∧
      (cohLayer thr score ls suff).2 ≤ suff + suffCount (ls.map fun l => (l, score l)) := by
  intro ls
  induction ls with
  | nil => exact fun suff _ => ⟨rfl, Nat.le_add_right _ _⟩
  | cons l ls ih =>
    intro suff h
    rw [List.map_cons, suffCount_cons] at h ⊢
    rw [cohLayer]
    dsimp only at h ⊢
    by_cases hlt : Fl.lt (score l) thr = true
    · rw [if_pos hlt, List.filter_cons_of_neg (by simpa using hlt)]
      have := ih suff (by omega)
      exact ⟨this.1, by omega⟩
    · -- kept, and counted if sufficient; the counter stays below three, so no `break`
      rw [if_neg hlt, List.filter_cons_of_pos (by simpa using hlt),
        show (if Fl.ge (score l) sufficient = true then suff + 1 else suff) =
          suff + if Fl.ge (score l) sufficient = true then 1 else 0 by split <;> rfl, if_neg (by omega)]
      have := ih (suff + if Fl.ge (score l) sufficient = true then 1 else 0) (by omega)
      exact ⟨congrArg _ this.1, by omega⟩

theorem cohLayers_calm (thr : F32) (score : Nat → L → F32) (cands : Nat → List L) :
    ∀ (layers : List Nat) (suff : Nat), suff + suffCount (allPairs score cands layers) < 3 →
      cohLayers thr score cands layers suff = (allPairs score cands layers).filter (fun p => !Fl.lt p.2 thr) := by
  intro layers
  induction layers with
  | nil => exact fun _ _ => rfl
  | cons i is ih =>
    intro suff h
    rw [allPairs, List.flatMap_cons, suffCount_append] at h
    have hi := cohLayer_calm thr (score i) (cands i) suff (by omega)
    rw [cohLayers, allPairs, List.flatMap_cons, List.filter_append, hi.1, ih _ (by rw [allPairs]; omega)]
    rfl

/-- fewer than three sufficient scores overall: the `break` of cd.rs:255-257 is never taken -/
def Calm (score : Nat → L → F32) (cands : Nat → List L) (layers : List Nat) : Prop :=
  suffCount (allPairs score cands layers) < 3

/-- **C19 (cut-off, partial)** — under `Calm` and for a threshold not above 0.8, the entries collected by
    `coherence_ratio` are exactly the (language, score) pairs whose score reaches the threshold -/
theorem C19_cutoff_partial (thr : F32) (hthr : ThrOk thr) (score : Nat → L → F32) (cands : Nat → List L)
    (layers : List Nat) (hcalm : Calm score cands layers) :
    cohLayers thr score cands layers 0 = (allPairs score cands layers).filter (fun p => !Fl.lt p.2 thr) :=
  cohLayers_calm thr score cands layers 0 (by simpa [Calm] using hcalm)

/-- hence raising the threshold (both `ThrOk`) only ever removes entries -/
theorem C19_monotone_partial (t1 t2 : F32) (h1 : ThrOk t1) (h2 : ThrOk t2)
    (hle : ∀ r : F32, Fl.lt r t1 = true → Fl.lt r t2 = true)
    (score : Nat → L → F32) (cands : Nat → List L) (layers : List Nat) (hcalm : Calm score cands layers) :
    ∀ p ∈ cohLayers t2 score cands layers 0, p ∈ cohLayers t1 score cands layers 0 := by
  rw [C19_cutoff_partial t1 h1 _ _ _ hcalm, C19_cutoff_partial t2 h2 _ _ _ hcalm]
  intro p hp
  simp only [List.mem_filter, Bool.not_eq_eq_eq_not, Bool.not_true] at hp ⊢
  refine ⟨hp.1, ?_⟩
  cases h : Fl.lt p.2 t1 with
  | false => rfl
  | true => have := hle _ h; rw [hp.2] at this; cases this

/-- **C19 (listed ⇔ reaches the threshold, partial)** — under `Calm` and for a threshold not above 0.8, a language
    appears in the result of `coherence_ratio` exactly when one of its scores reaches the threshold -/
theorem C19_listed_iff_partial (thr : F32) (hthr : ThrOk thr) (n : Nat) (score : Nat → L → F32)
    (cands : Nat → List L) (hcalm : Calm score cands (List.range n)) (l : L) :
    l ∈ (coherenceRatioModel thr n score cands).map (·.1) ↔
      ∃ i, i < n ∧ l ∈ cands i ∧ Fl.lt (score i l) thr = false := by
  rw [(coherenceRatioModel_keys thr n score cands).mem_iff, mem_langsOf, C19_cutoff_partial thr hthr _ _ _ hcalm]
  simp only [List.mem_map, List.mem_filter, allPairs, List.mem_flatMap, List.mem_range, Bool.not_eq_eq_eq_not,
    Bool.not_true]
  constructor
  · rintro ⟨p, ⟨⟨i, hi, l', hl', rfl⟩, hlt⟩, rfl⟩
    exact ⟨i, hi, hl', hlt⟩
  · rintro ⟨i, hi, hl, hlt⟩
    exact ⟨(l, score i l), ⟨⟨i, hi, l, hl, rfl⟩, hlt⟩, rfl⟩

/-- **C19 (order)** — the language list is ordered by non-increasing score (OrderedFloat order) -/
theorem C19_sorted (l : List (L × F32)) :
    (sortDesc l).Pairwise (fun a b => b.2.key ≤ a.2.key) := sortDesc_sorted l

theorem C19_sorted_model (thr : F32) (n : Nat) (score : Nat → L → F32) (cands : Nat → List L) :
    (coherenceRatioModel thr n score cands).Pairwise (fun a b => b.2.key ≤ a.2.key) :=
  C19_sorted _

/-- toy world: layer 0 has three languages scoring 0.9 (sufficient), layer 1 has language 3 scoring 0.5
    and language 4 scoring 0.7 -/
def cexScore : Nat → Nat → F32 := fun i l =>
  if i = 0 then F32.lit 9 10 else if l = 3 then F32.lit 1 2 else F32.lit 7 10
def cexCands : Nat → List Nat := fun i => if i = 0 then [0, 1, 2] else [3, 4]

/-- **C19 counterexample** — with threshold 0.4 language 4 is NOT listed (layer 1 stops at language 3),
    with the higher threshold 0.6 language 4 IS listed: raising the threshold added a language.
    (Kernel-evaluated on the float model; replayed on the implementation by the harness.) -/
theorem C19_counterexample :
    ((coherenceRatioModel (F32.lit 4 10) 2 cexScore cexCands).map (·.1)).contains 4 = false ∧
    ((coherenceRatioModel (F32.lit 6 10) 2 cexScore cexCands).map (·.1)).contains 4 = true := by
  decide +kernel

/-- non-vacuity of `Calm`: a world with two sufficient scores -/
example : suffCount (allPairs (fun _ l => if l < 2 then F32.lit 9 10 else F32.lit 3 10) (fun _ => [0, 1, 2]) [0]) = 2 := by
  decide +kernel

end Charset
