/-
  C10 — alternatives partition the accepted encodings; match fields are coherent.
-/
import CharsetProof.Lemmas.Master
import CharsetProof.Lemmas.EntryFacts
import CharsetProof.Lemmas.SortPerm
import CharsetProof.Lemmas.Names
import CharsetProof.Lemmas.Ranges
import CharsetProof.Model.Entity
import CharsetProof.Generated.TablesNow
namespace Charset
variable {E L : Type} [DecidableEq E]

/-- every encoding named anywhere in a result list (main encodings and alternatives) -/
def allCands (items : List (Match E L)) : List E := items.flatMap Match.cands

omit [DecidableEq E] in
theorem mem_allCands {items : List (Match E L)} {e : E} : e ∈ allCands items ↔ ∃ m ∈ items, e ∈ m.cands :=
  List.mem_flatMap

omit [DecidableEq E] in
theorem allCands_append_perm {sort : Sorter E L} (hperm : ∀ l, (sort l).Perm l) (tooBig : Nat)
    (items : List (Match E L)) (item : Match E L) (hsubs : item.subs = []) :
    (allCands (append sort tooBig items item)).Perm (item.enc :: allCands items) := by
  rcases append_cases sort tooBig items item with ⟨pre, m, post, h1, _, _, h4⟩ | ⟨_, h4⟩
  · rw [h4, h1]
    have hc : ({ m with subs := m.subs ++ [item.toSub] } : Match E L).cands = m.cands ++ [item.enc] := by
      simp [Match.cands, Match.toSub]
    simp only [allCands, List.flatMap_append, List.flatMap_cons, hc]
    -- pre' ++ ((mc ++ [e]) ++ post')  ~  e :: (pre' ++ (mc ++ post'))
    have := List.perm_middle (a := item.enc) (l₁ := pre.flatMap Match.cands ++ m.cands)
      (l₂ := post.flatMap Match.cands)
    simpa [List.append_assoc] using this
  · rw [h4]
    have h1 := (hperm (items ++ [item])).flatMap_right Match.cands
    refine h1.trans ?_
    simp only [List.flatMap_append, List.flatMap_cons, List.flatMap_nil, List.append_nil, Match.cands, hsubs,
      List.map_nil, allCands]
    exact List.perm_append_comm

/-- **C10 (no encoding twice)** — for every world/tables with a duplicate-free supported list, no
    encoding occurs twice in a result: not within a match, not across matches, not as main encoding
    and alternative at once; and every encoding named is a supported one. (Non-empty input of every
    size; the 1,000,000-byte bound of the property is only needed for the "share a match" clause.) -/
theorem C10_nodup {W : World E L} {T : Tables E} {sort : Sorter E L}
    (hperm : ∀ l, (sort l).Perm l) (hnd : T.supported.Nodup)
    {b : Bytes} {s : Settings} {ms : List (Match E L)} (hb : b ≠ [])
    (h : fromBytes W T sort b s = .ok (.ok ms)) :
    (allCands ms).Nodup ∧ ∀ e ∈ allCands ms, e ∈ T.supported := by
  obtain ⟨incl, excl, hincl, hexcl⟩ := fromBytes_ok_canon h
  have hord : (probeOrder T.supported (prioritized T b s.preemptive)).Nodup := nodup_probeOrder hnd
  -- invariant: the candidates named so far are distinct and have all been probed already
  have key := fromBytes_results hperm hincl hexcl
    (fun done rs => (allCands rs).Nodup ∧ ∀ x ∈ allCands rs, x ∈ done)
    (fun fb => fb.subs = [] ∧ fb.enc ∈ T.supported) ⟨by simp [allCands], by simp [allCands]⟩
    (fun done rs e h => ⟨h.1, fun x hx => by simp [h.2 x hx]⟩) ?_ ?_ hb h
  · rcases key with h1 | ⟨done, rest, rs, x, hall, h1, hx, rfl⟩ | ⟨fb, h1, rfl⟩
    · exact ⟨h1.1, fun e he => mem_probeOrder_iff.mp (h1.2 e he)⟩
    · have hc : allCands [x] = x.cands := by simp [allCands]
      rw [hc]
      refine ⟨(List.pairwise_flatMap.mp h1.1).1 x hx,
        fun e he => mem_probeOrder_iff.mp (hall ▸ List.mem_append_left rest (h1.2 e (mem_allCands.mpr ⟨x, hx, he⟩)))⟩
    · simp [allCands, Match.cands, h1.1, h1.2]
  · intro done rest rs e m hall _ hinv hp
    have f := accepted_facts hp
    have hp' := allCands_append_perm hperm T.tooBig rs m f.subs
    have hnotin : e ∉ done := by
      have : (done ++ e :: rest).Nodup := by rw [hall]; exact hord
      have := (List.nodup_append.mp this).2.2
      intro hd
      exact this e hd e (by simp) rfl
    refine ⟨hp'.nodup_iff.mpr ?_, ?_⟩
    · rw [f.enc]
      exact List.nodup_cons.mpr ⟨fun hin => hnotin (hinv.2 e hin), hinv.1⟩
    · intro x hx
      rcases List.mem_cons.mp (hp'.mem_iff.mp hx) with h1 | h1
      · rw [h1, f.enc]; simp
      · simp [hinv.2 x h1]
  · intro done rest e fb hall _ hp
    have f := fallback_facts hp
    exact ⟨f.subs, by rw [f.enc]; exact mem_probeOrder_iff.mp (hall ▸ List.mem_append_cons_self)⟩

/-- **C10 (lookup by name)** — looking a match up by any label that canonicalises to one of its
    candidates returns that very match (unique by `C10_nodup`) -/
theorem C10_lookup {iana : Name → Option E} {items : List (Match E L)} (hnd : (allCands items).Nodup)
    {m : Match E L} (hm : m ∈ items) {n : Name} {e : E} (hn : iana n = some e) (he : e ∈ m.cands) :
    getByEncoding iana items n = some m := by
  unfold getByEncoding
  rw [hn]
  obtain ⟨as, bs, rfl⟩ := List.append_of_mem hm
  -- a candidate shared with an earlier element would occur twice
  have hdis := (List.pairwise_append.mp (List.pairwise_flatMap.mp hnd).2).2.2
  refine List.find?_eq_some_iff_append.mpr ⟨by simpa using he, as, bs, rfl, fun a ha => ?_⟩
  simp only [Bool.not_eq_eq_eq_not, Bool.not_true, List.contains_eq_mem, decide_eq_false_iff_not]
  exact fun hea => hdis a ha m (by simp) e hea e he rfl

/-- **C10 (most probable language)** — `mostProbable` (Model/Entity.lean): the head of the language list when there is one -/
theorem C10_most_probable_head {english unknown : L} {ascii : E} {inferred : E → List L} (m : Match E L)
    (l : L) (ls : List L) (h : m.languages = l :: ls) : mostProbable english unknown ascii inferred m = l := by
  unfold mostProbable
  unfold Match.languages at h
  cases hc : m.cohs with
  | nil => simp [hc] at h
  | cons p ps =>
    simp only [hc, List.map_cons, List.cons.injEq] at h
    simp [h.1]

/-- **C10 (languages)** — if every merged coherence list is duplicate-free (a law of `World.merge`; for the modelled
    merge it is `mergeModel_nodup`), then every match's language list has no repeats.  That an encoding tied to one
    language names no other is `C10_tied_language`. -/
theorem C10_languages {W : World E L} {T : Tables E} {sort : Sorter E L} [DecidableEq L]
    (hperm : ∀ l, (sort l).Perm l)
    (hmergeNodup : ∀ xs r, W.merge xs = .ok r → (r.map (·.1)).Nodup)
    {b : Bytes} {s : Settings} {incl excl : List E}
    (hincl : canonList T.ianaName s.incl = .ok incl) (hexcl : canonList T.ianaName s.excl = .ok excl)
    {ms : List (Match E L)} (hb : b ≠ []) (h : fromBytes W T sort b s = .ok (.ok ms)) :
    ∀ m ∈ ms, m.languages.Nodup := by
  intro m hm
  rcases fromBytes_entry hperm hincl hexcl hb h hm m.toSub_mem_entries with f | ⟨f, _⟩
  · obtain ⟨cdl, hc⟩ := f.cohMerged
    exact hmergeNodup _ _ hc
  · simp [Match.languages, show m.cohs = [] from f.cohs]

theorem C10_nodup_current (o : Oracle) {b : Bytes} {s : Settings} {ms : List (Match Name Name)} (hb : b ≠ [])
    (h : fromBytes (worldNow o) tablesNow sortMatches b s = .ok (.ok ms)) :
    (allCands ms).Nodup ∧ ∀ e ∈ allCands ms, e ∈ Gen.supported :=
  C10_nodup sortMatches_perm supported_nodup_now hb h

/-- `m.unicode_ranges()` over the block table dumped from the compiled crate (tie T1) -/
def unicodeRangesNow {E L : Type} (m : Match E L) : List Name := unicodeRangesOf Gen.unicodeRanges m.text

/-- **C10 (unicode_ranges)** — for every match (every text, also none): strictly increasing in the
    string order (so sorted and duplicate-free), and a range is listed exactly when some character of
    the text lies in it (first matching row of the table, as `unicode_range` does) -/
theorem C10_unicode_ranges {E L : Type} (m : Match E L) :
    (unicodeRangesNow m).Pairwise (fun a b => a < b) ∧ (unicodeRangesNow m).Nodup ∧
    ∀ r, r ∈ unicodeRangesNow m ↔ ∃ c ∈ m.text.getD [], unicodeRangeOf Gen.unicodeRanges c = some r :=
  unicodeRangesOf_spec Gen.unicodeRanges m.text

/-- the union clause, spelled as in the property: the ranges of a text are the ranges of its characters -/
theorem C10_unicode_ranges_union (t : Text) (r : Name) :
    r ∈ unicodeRangesOf Gen.unicodeRanges (some t) ↔
      ∃ c ∈ t, r ∈ unicodeRangesOf Gen.unicodeRanges (some [c]) := by
  simp only [(unicodeRangesOf_spec Gen.unicodeRanges _).2.2, Option.getD_some, List.mem_singleton, exists_eq_left]

/-- non-vacuity: "é a" lies in two blocks, listed in string order -/
example : unicodeRangesOf Gen.unicodeRanges (some [233, 32, 97]) =
    [nameOfStr "Basic Latin", nameOfStr "Latin-1 Supplement"] := by decide +kernel

end Charset
