/-
  C11 for nested memoised calls: a *history* of calls, each run to completion on the caches the previous
  ones left behind (several caches, nested bodies, arbitrary eviction), returns for every call exactly the
  value the call has on empty caches.  Derived from the nested interleaving model with a single thread:
  no deadlock makes the lone thread enabled, the rank bounds its steps.
-/
import CharsetProof.Props.C12Nested
set_option linter.unusedSectionVars false
namespace Charset
namespace Nested
variable {K V : Type} [DecidableEq K]

def runSolo (F : Funs K V) (ev : Nat → Evict K V) : Nat → Sys K V → Sys K V
  | 0, s => s
  | n + 1, s => runSolo F ev n (stepThread F ev s 0)

theorem runSolo_eq_runSchedule (F : Funs K V) (ev : Nat → Evict K V) : ∀ (n : Nat) (s : Sys K V),
    runSolo F ev n s = runSchedule F ev (List.replicate n 0) s
  | 0, _ => rfl
  | n + 1, _ => runSolo_eq_runSchedule F ev n _

theorem deliver_root (v : V) (rest : List (Frame K V)) (t : Thread K V) : (deliver v rest t).root = t.root := by
  unfold deliver
  cases rest with
  | nil => rfl
  | cons p ps => simp only; cases p.pc <;> rfl

theorem stepThread_roots (F : Funs K V) (ev : Nat → Evict K V) (s : Sys K V) (i : Nat) :
    (stepThread F ev s i).threads.map (·.root) = s.threads.map (·.root) := by
  -- a step leaves the threads alone or gives thread `i` a new stack; two of them (cache hit, insertion) also `deliver`
  fun_cases stepThread F ev s i <;> try rfl
  all_goals refine map_set_eq _ ‹_› ?_
  case case5 | case11 => exact deliver_root ..
  all_goals rfl

theorem solo_enabled {F : Funs K V} {s : Sys K V} (h : Good F s) {t : Thread K V} (hs : s.threads = [t])
    (hne : t.stack ≠ []) : enabled s.locks t = true := by
  have ht : s.threads[0]? = some t := by rw [hs]; rfl
  obtain ⟨j, tj, htj, hen⟩ := C12_nested_no_deadlock F s h ⟨0, t, ht, hne⟩
  rw [hs] at htj
  cases j with
  | zero => cases htj; exact hen
  | succ n => simp at htj

theorem solo_finishes (F : Funs K V) (ev : Nat → Evict K V) {call : Call K} : ∀ (n : Nat) (s : Sys K V), Good F s →
    s.threads.map (·.root) = [call] → totalRank F s ≤ n →
    ∃ t', (runSolo F ev n s).threads = [t'] ∧ t'.stack = [] ∧ t'.root = call
  | 0, s, hg, hroots, hrank => by
    obtain ⟨t, ht, hroot⟩ := List.map_eq_singleton_iff.mp hroots
    refine ⟨t, ht, ?_, hroot⟩
    cases hst : t.stack with
    | nil => rfl
    | cons fr rest =>
      -- an unfinished lone thread can step, and the step would take the rank below 0
      have := C12_nested_step_decreases F ev s 0 t (by rw [ht]; rfl) (solo_enabled hg ht (by rw [hst]; nofun))
      omega
  | n + 1, s, hg, hroots, hrank => by
    obtain ⟨t, ht, _⟩ := List.map_eq_singleton_iff.mp hroots
    have ht0 : s.threads[0]? = some t := by rw [ht]; rfl
    simp only [runSolo]
    by_cases hne : t.stack = []
    · have hsame : stepThread F ev s 0 = s := by
        unfold stepThread; simp only [ht0, hne]
      rw [hsame]
      exact solo_finishes F ev n s hg hroots (by simp [totalRank, threadRank, ht, hne])
    · have hdec := C12_nested_step_decreases F ev s 0 t ht0 (solo_enabled hg ht hne)
      exact solo_finishes F ev n _ (good_step F ev s 0 hg) ((stepThread_roots F ev s 0).trans hroots) (by omega)

/-- `F.cost` steps: the rank of the initial system, enough for the call to finish (`solo_finishes`) -/
def callSolo (F : Funs K V) (ev : Nat → Evict K V) (caches : Nat → CacheEntries K V) (call : Call K) :
    Option V × (Nat → CacheEntries K V) :=
  let s := runSolo F ev (F.cost call.1 call.2) (initSys caches [call])
  ((s.threads.head?.bind (·.result)), s.caches)

def runHistory (F : Funs K V) (ev : Nat → Evict K V) : List (Call K) → (Nat → CacheEntries K V) → List (Option V)
  | [], _ => []
  | call :: rest, caches =>
    let r := callSolo F ev caches call
    r.1 :: runHistory F ev rest r.2

theorem callSolo_correct (F : Funs K V) (ev : Nat → Evict K V) (caches : Nat → CacheEntries K V)
    (hc : ∀ c, CacheOk (F.val c) (caches c)) (call : Call K) :
    (callSolo F ev caches call).1 = some (F.val call.1 call.2) ∧
    ∀ c, CacheOk (F.val c) ((callSolo F ev caches call).2 c) := by
  have hinit := good_init F caches hc [call]
  obtain ⟨t', hthreads, hstack, hroot⟩ := solo_finishes F ev (F.cost call.1 call.2) (initSys caches [call])
    hinit rfl (by simp [totalRank_initSys])
  have hgood := C12_nested_safety F ev (List.replicate (F.cost call.1 call.2) 0) _ hinit
  rw [← runSolo_eq_runSchedule] at hgood
  have hres := C12_nested_finished_has_result F _ hgood 0 t' (by rw [hthreads]; rfl) hstack
  unfold callSolo
  simp only [hthreads, List.head?_cons, Option.bind_some]
  exact ⟨by rw [hres, hroot], hgood.cacheOk⟩

/-- **C11 (nested memoisation is unobservable)**: in any history of calls over several caches with nested
    memoised bodies and arbitrary eviction, started from any correct cache contents (in particular cold),
    every call returns exactly its own value – the one it returns as the first call of a fresh process. -/
theorem C11_nested_history (F : Funs K V) (ev : Nat → Evict K V) :
    ∀ (hist : List (Call K)) (caches : Nat → CacheEntries K V), (∀ c, CacheOk (F.val c) (caches c)) →
      runHistory F ev hist caches = hist.map (fun call => some (F.val call.1 call.2))
  | [], _, _ => rfl
  | call :: rest, caches, hc => by
    obtain ⟨h1, h2⟩ := callSolo_correct F ev caches hc call
    simp only [runHistory, List.map_cons, h1]
    rw [C11_nested_history F ev rest _ h2]

/-- non-vacuity: a warm history on the two-level demo instance -/
example : runHistory (demoFuns (· + 1)) (fun _ => ⟨id, fun _ _ h => h⟩) [(1, [1, 2]), (0, [2]), (1, [2, 1])] (fun _ => []) =
    [some 5, some 3, some 5] := by decide +kernel

end Nested
end Charset
