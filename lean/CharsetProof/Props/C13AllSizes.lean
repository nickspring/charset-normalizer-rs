/-
  C13 on the lazy path (> `TOO_BIG_SEQUENCE` bytes, single-byte code page): an input that fits the
  window is still analysed in full — the single chunk is the strict decode of *all* bytes, which is
  the text the match exposes; so the chaos is the same function of (text, threshold) as on the
  ordinary path: `C13_chaos_of_text` without its size restriction.
-/
import CharsetProof.Props.C13
import CharsetProof.Props.C01
import CharsetProof.Lemmas.CharsLeNow
namespace Charset
variable {E L : Type} [DecidableEq E]

/-- **C13 (chaos = g(text, threshold)), every size**: for an input that fits the window the chaos of
    every regular candidate is `chaosOfText` of its decoded text, also when the input is larger than
    `TOO_BIG_SEQUENCE` and the candidate is a single-byte code page (the lazy path).  Hypotheses about
    the world: the single-byte laws of C01 (`LazyLaws`, proved for the modelled table codecs), at most one
    character per byte, and a non-empty input never decodes to an empty text under a single-byte code
    page (`hne`, proved for table codecs: exactly one character per byte). -/
theorem C13_chaos_of_text_all_sizes {W : World E L} {T : Tables E} {sort : Sorter E L}
    (hperm : ∀ l, (sort l).Perm l) (hmb : ∀ em ∈ T.marks, T.isMultiByte em.1 = true) (laws : LazyLaws W T)
    (hchars : ∀ e x t, e ∈ T.supported → W.decode e x = .ok (some t) → t.length ≤ x.length)
    (hne : ∀ e x t, e ∈ T.supported → T.isMultiByte e = false → W.decode e x = .ok (some t) → x ≠ [] → t ≠ [])
    {b : Bytes} {s : Settings} {incl excl : List E}
    (hincl : canonList T.ianaName s.incl = .ok incl) (hexcl : canonList T.ianaName s.excl = .ok excl)
    (hfit : Fits b s) (hthr : s.thr.isNaN = false)
    {ms : List (Match E L)} (hb : b ≠ []) (h : fromBytes W T sort b s = .ok (.ok ms)) :
    ∀ m ∈ ms, ∀ c ∈ m.entries, Fl.ge c.chaos s.thr = false →
      ∃ t, c.text = some t ∧ chaosOfText W t s.thr = .ok c.chaos := by
  intro m hm c hc hge
  have f := fromBytes_entry_regular hperm hincl hexcl hthr hb h hm hc hge
  obtain ⟨p, acc, hrun, hchaos, _⟩ := f.run
  obtain ⟨t, hdec, ht, hw⟩ := whole_of_fits hchars hfit hb f.common (fun _ => ⟨hmb, laws⟩) hrun
  refine ⟨t, ht, hchaos ▸ (hw fun hl => ?_).chaos⟩
  have hsb := (lazyOf_ctxOf_iff.mp hl).2
  rw [stripMark_single_byte hmb hsb] at hdec
  exact hne _ _ _ f.supported hsb hdec hb

theorem nonEmpty_now (o : Oracle) : ∀ e x t, e ∈ tablesNow.supported → tablesNow.isMultiByte e = false →
    (worldNow o).decode e x = .ok (some t) → x ≠ [] → t ≠ [] := by
  intro e x t hs hmb hx hxne
  obtain ⟨tbl, hc, _⟩ := codecNow_table hs hmb
  rw [worldNow_decode, decodeNow_table_some hc hmb] at hx
  have := tableStrict_length tbl x t hx
  rintro rfl
  exact hxne (List.eq_nil_of_length_eq_zero this.symm)

theorem nonEmpty_full (menv : Md.MdEnv) (cenv : Coh.CohEnv) (o : Oracle) : ∀ e x t, e ∈ tablesNow.supported →
    tablesNow.isMultiByte e = false → (worldFull menv cenv o).decode e x = .ok (some t) → x ≠ [] → t ≠ [] := by
  rw [worldFull_decode, ← worldNow_decode]
  exact nonEmpty_now o

/-- **C13 for the current tree, every size**: every decoder of a supported encoding is a Lean definition (single-byte tables,
    UTF-8, UTF-16, the multi-byte legacy decoders of Model/Cjk.lean): no hypothesis about the world is left -/
theorem C13_chaos_of_text_current (o : Oracle)
    {b : Bytes} {s : Settings} {incl excl : List Name}
    (hincl : canonList ianaNow s.incl = .ok incl) (hexcl : canonList ianaNow s.excl = .ok excl)
    (hfit : Fits b s) (hthr : s.thr.isNaN = false)
    {ms : List (Match Name Name)} (hb : b ≠ [])
    (h : fromBytes (worldNow o) tablesNow sortMatches b s = .ok (.ok ms)) :
    ∀ m ∈ ms, ∀ c ∈ m.entries, Fl.ge c.chaos s.thr = false →
      ∃ t, c.text = some t ∧ chaosOfText (worldNow o) t s.thr = .ok c.chaos :=
  C13_chaos_of_text_all_sizes sortMatches_perm marksMultiByte_now (lazyLaws_now o) (hchars_now o) (nonEmpty_now o)
    hincl hexcl hfit hthr hb h

end Charset
