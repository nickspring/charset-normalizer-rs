/-
  Companions of `detection_full` for the fully modelled detection, again without any hypothesis about the world (merge,
  mess detector and decoders are the Lean definitions of `worldFull`): `detection_full_languages` bundles the clauses about
  language lists (C10: no repeats; C19: ordered by non-increasing score) and about the analysis window (C13: chaos is
  `mess_ratio` of the whole decoded text when the input fits); `detection_full_verdicts` the restricted run (C09) and
  "valid UTF-8 is never binary" (C04); with them the `_full` forms of the single clauses (C01 ascii, C04 threshold).
-/
import CharsetProof.Props.Full
import CharsetProof.Props.C10Languages
import CharsetProof.Props.C09
import CharsetProof.Props.C04Utf8
import CharsetProof.Props.C01Ascii
import CharsetProof.Props.C04
import CharsetProof.Props.C13Full
namespace Charset

/-- C10 (language list has no repeats), fully modelled world -/
theorem C10_languages_full (menv : Md.MdEnv) (cenv : Coh.CohEnv) (o : Oracle) {b : Bytes} {s : Settings}
    {incl excl : List Name}
    (hincl : canonList ianaNow s.incl = .ok incl) (hexcl : canonList ianaNow s.excl = .ok excl)
    {ms : List (Match Name Name)} (hb : b ≠ [])
    (h : fromBytes (worldFull menv cenv o) tablesNow sortMatches b s = .ok (.ok ms)) :
    ∀ m ∈ ms, m.languages.Nodup :=
  fromBytes_languages_nodup sortMatches_perm (fun _ => rfl) hincl hexcl hb h

/-- C19 (order of the reported list), fully modelled world -/
theorem C19_result_sorted_full (menv : Md.MdEnv) (cenv : Coh.CohEnv) (o : Oracle) {b : Bytes} {s : Settings}
    {incl excl : List Name}
    (hincl : canonList ianaNow s.incl = .ok incl) (hexcl : canonList ianaNow s.excl = .ok excl)
    {ms : List (Match Name Name)} (hb : b ≠ [])
    (h : fromBytes (worldFull menv cenv o) tablesNow sortMatches b s = .ok (.ok ms)) :
    ∀ m ∈ ms, ∀ c ∈ m.entries, c.cohs.Pairwise (fun a b => b.2.key ≤ a.2.key) :=
  fromBytes_cohs_sorted sortMatches_perm (fun _ => rfl) hincl hexcl hb h

/-- **Detection, fully modelled, language and window clauses – no hypothesis about the world** -/
theorem detection_full_languages (menv : Md.MdEnv) (cenv : Coh.CohEnv) (o : Oracle) (b : Bytes) (s : Settings)
    (hb : b ≠ []) (hthr : s.thr.isNaN = false) {ms : List (Match Name Name)}
    (h : fromBytes (worldFull menv cenv o) tablesNow sortMatches b s = .ok (.ok ms)) :
    -- C10: no language is listed twice
    (∀ m ∈ ms, m.languages.Nodup) ∧
    -- C19: every candidate's languages are ordered by non-increasing score
    (∀ m ∈ ms, ∀ c ∈ m.entries, c.cohs.Pairwise (fun a b => b.2.key ≤ a.2.key)) ∧
    -- C13: when the input fits the window, the chaos of every regular candidate is mess_ratio of its whole text
    (Fits b s → ∀ m ∈ ms, ∀ c ∈ m.entries, Fl.ge c.chaos s.thr = false →
      ∃ t, c.text = some t ∧ c.chaos = (if t.isEmpty then Fl.zero else Md.messRatio menv t s.thr)) := by
  obtain ⟨incl, excl, hincl, hexcl⟩ := fromBytes_ok_canon h
  exact ⟨C10_languages_full menv cenv o hincl hexcl hb h,
         C19_result_sorted_full menv cenv o hincl hexcl hb h,
         fun hfit => C13_chaos_is_mess_ratio_full_all_sizes menv cenv o hincl hexcl hfit hthr hb h⟩

/-- C09 (restricting to one reported encoding reproduces its verdict), fully modelled world -/
theorem C09_restricted_full (menv : Md.MdEnv) (cenv : Coh.CohEnv) (o : Oracle) {b : Bytes} {s : Settings}
    {incl excl : List Name}
    (hincl : canonList ianaNow s.incl = .ok incl) (hexcl : canonList ianaNow s.excl = .ok excl)
    {ms : List (Match Name Name)} (hb : b ≠ [])
    (h : fromBytes (worldFull menv cenv o) tablesNow sortMatches b s = .ok (.ok ms))
    {m : Match Name Name} (hm : m ∈ ms) {x : Sub Name Name} (hx : x ∈ m.entries)
    (hsup : x.enc ∈ Gen.supported) :
    ∃ m0, m0.toSub = x ∧ m0.subs = [] ∧
      fromBytes (worldFull menv cenv o) tablesNow sortMatches b { s with incl := [x.enc] } = .ok (.ok [m0]) :=
  C09_restricted_tablesNow hincl hexcl hb h hm hx

/-- C04 (valid UTF-8 is never binary), fully modelled world -/
theorem C04_valid_utf8_full (menv : Md.MdEnv) (cenv : Coh.CohEnv) (o : Oracle) {b : Bytes} {s : Settings}
    (hb : b ≠ []) (hfb : s.fallback = true) (hincl : s.incl = []) (hexcl : s.excl = [])
    (hvalid : ∃ t, utf8Strict (b.drop (startIdxOf (ctxOf tablesNow b s) nUTF8)) = .ok t)
    {ms : List (Match Name Name)}
    (h : fromBytes (worldFull menv cenv o) tablesNow sortMatches b s = .ok (.ok ms)) : ms ≠ [] :=
  C04_valid_utf8_tablesNow o (congrFun (worldFull_decode menv cenv o) nUTF8) hb hfb hincl hexcl hvalid h

/-- **Detection, fully modelled, verdict clauses – no hypothesis about the world**: every reported candidate that
    names a supported encoding is reproduced alone by the run restricted to it (C09), and valid UTF-8 with the
    fallback enabled and no filters is never reported binary (C04) -/
theorem detection_full_verdicts (menv : Md.MdEnv) (cenv : Coh.CohEnv) (o : Oracle) (b : Bytes) (s : Settings)
    (hb : b ≠ []) {ms : List (Match Name Name)}
    (h : fromBytes (worldFull menv cenv o) tablesNow sortMatches b s = .ok (.ok ms)) :
    (∀ m ∈ ms, ∀ x ∈ m.entries, x.enc ∈ Gen.supported →
      ∃ m0, m0.toSub = x ∧ m0.subs = [] ∧
        fromBytes (worldFull menv cenv o) tablesNow sortMatches b { s with incl := [x.enc] } = .ok (.ok [m0])) ∧
    (s.fallback = true → s.incl = [] → s.excl = [] →
      (∃ t, utf8Strict (b.drop (startIdxOf (ctxOf tablesNow b s) nUTF8)) = .ok t) → ms ≠ []) := by
  obtain ⟨incl, excl, hincl, hexcl⟩ := fromBytes_ok_canon h
  exact ⟨fun m hm x hx hsup => C09_restricted_full menv cenv o hincl hexcl hb h hm hx hsup,
         fun hfb hi he hv => C04_valid_utf8_full menv cenv o hb hfb hi he hv h⟩

/-- C01 (ascii clause) for the fully modelled world, inputs that fit the window: a candidate named `ascii` means every
    byte of the input is below 0x80 (beyond the window the clause is false of the crate – known finding) -/
theorem C01_ascii_fit_full (menv : Md.MdEnv) (cenv : Coh.CohEnv) (o : Oracle)
    {b : Bytes} {s : Settings} {incl excl : List Name}
    (hincl : canonList ianaNow s.incl = .ok incl) (hexcl : canonList ianaNow s.excl = .ok excl)
    (hfit : Fits b s)
    {ms : List (Match Name Name)} (hb : b ≠ [])
    (h : fromBytes (worldFull menv cenv o) tablesNow sortMatches b s = .ok (.ok ms)) :
    ∀ m ∈ ms, ∀ c ∈ m.entries, c.enc = tablesNow.ascii → b.all (· < 128) = true :=
  C01_ascii_fit_partial sortMatches_perm marksMultiByte_now (lazyLaws_full menv cenv o) (hchars_full menv cenv o)
    asciiSingleByte_now (by rw [worldFull_decode, ← worldNow_decode]; exact asciiLaw_now o) hincl hexcl hfit hb h

/-- C04 (threshold or the single last-resort candidate), fully modelled world, with the fallback's fields -/
theorem C04_threshold_full (menv : Md.MdEnv) (cenv : Coh.CohEnv) (o : Oracle) {b : Bytes} {s : Settings}
    {ms : List (Match Name Name)} (hb : b ≠ [])
    (h : fromBytes (worldFull menv cenv o) tablesNow sortMatches b s = .ok (.ok ms)) :
    (∀ m ∈ ms, Fl.ge m.chaos s.thr = false ∧ ∀ c ∈ m.entries, Fl.ge c.chaos s.thr = false) ∨
    (∃ fb, ms = [fb] ∧ fb.subs = [] ∧ fb.chaos = s.thr ∧ s.fallback = true ∧ fb.enc ∈ hintsOf tablesNow b s ∧
      fb.cohs = [] ∧ fb.bom = false) := by
  obtain ⟨incl, excl, hincl, hexcl⟩ := fromBytes_ok_canon h
  exact C04_threshold sortMatches_perm hincl hexcl hb h

/-- the hypothesis `fromBytes … = .ok (.ok ms)` of the bundled statements above is not vacuous and not a restriction:
    under the premises of `detection_full` the model always answers, and whenever the answer is a list of matches
    every clause of `detection_full_languages` and the restricted-run clause (C09) of `detection_full_verdicts` hold of it -/
theorem detection_full_companions (menv : Md.MdEnv) (cenv : Coh.CohEnv) (o : Oracle) (b : Bytes) (s : Settings)
    (hb : b ≠ []) (hs : 1 ≤ s.steps) (hlen : b.length + 1 < 2 ^ 64) (hthr : s.thr.isNaN = false) :
    ∃ r, fromBytes (worldFull menv cenv o) tablesNow sortMatches b s = .ok r ∧
      ∀ ms, r = .ok ms →
        (∀ m ∈ ms, m.languages.Nodup) ∧
        (∀ m ∈ ms, ∀ c ∈ m.entries, c.cohs.Pairwise (fun a b => b.2.key ≤ a.2.key)) ∧
        (Fits b s → ∀ m ∈ ms, ∀ c ∈ m.entries, Fl.ge c.chaos s.thr = false →
          ∃ t, c.text = some t ∧ c.chaos = (if t.isEmpty then Fl.zero else Md.messRatio menv t s.thr)) ∧
        (∀ m ∈ ms, ∀ x ∈ m.entries, x.enc ∈ Gen.supported →
          ∃ m0, m0.toSub = x ∧ m0.subs = [] ∧
            fromBytes (worldFull menv cenv o) tablesNow sortMatches b { s with incl := [x.enc] } = .ok (.ok [m0])) := by
  obtain ⟨r, hr⟩ := C02_full menv cenv o b s hs hlen
  refine ⟨r, hr, ?_⟩
  intro ms hms
  subst hms
  have h1 := detection_full_languages menv cenv o b s hb hthr hr
  have h2 := detection_full_verdicts menv cenv o b s hb hr
  exact ⟨h1.1, h1.2.1, h1.2.2, h2.1⟩

end Charset
