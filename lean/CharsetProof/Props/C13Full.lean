/-
  C13 for the fully modelled world: the chaos of a candidate of an input that fits the window is exactly
  mess_ratio of its whole decoded text.
-/
import CharsetProof.Props.C13
import CharsetProof.Lemmas.CharsLeNow
import CharsetProof.Lemmas.Md
import CharsetProof.Lemmas.Single
import CharsetProof.Props.C13AllSizes
namespace Charset

theorem chaosOfText_full_eq {menv : Md.MdEnv} {cenv : Coh.CohEnv} {o : Oracle} {t : Text} {thr chaos : F32}
    (hch : chaosOfText (worldFull menv cenv o) t thr = .ok chaos) :
    chaos = (if t.isEmpty then Fl.zero else Md.messRatio menv t thr) := by
  unfold chaosOfText at hch
  split at hch
  · rw [if_pos ‹_›]; exact (Except.ok.inj hch).symm
  · rw [if_neg ‹_›]
    cases hm : (worldFull menv cenv o).mess t thr with
    | error e => rw [hm] at hch; cases hch
    | ok r =>
      obtain ⟨hlen, rfl⟩ := messGuarded_inv hm
      rw [hm] at hch
      rw [← Except.ok.inj hch, meanRatio_single (Md.messRatio_ok menv t thr hlen)]

/-- **C13, fully modelled, every size**: chaos = mess_ratio(text, threshold), exactly -/
theorem C13_chaos_is_mess_ratio_full_all_sizes (menv : Md.MdEnv) (cenv : Coh.CohEnv) (o : Oracle)
    {b : Bytes} {s : Settings} {incl excl : List Name}
    (hincl : canonList ianaNow s.incl = .ok incl) (hexcl : canonList ianaNow s.excl = .ok excl)
    (hfit : Fits b s) (hthr : s.thr.isNaN = false)
    {ms : List (Match Name Name)} (hb : b ≠ [])
    (h : fromBytes (worldFull menv cenv o) tablesNow sortMatches b s = .ok (.ok ms)) :
    ∀ m ∈ ms, ∀ c ∈ m.entries, Fl.ge c.chaos s.thr = false →
      ∃ t, c.text = some t ∧ c.chaos = (if t.isEmpty then Fl.zero else Md.messRatio menv t s.thr) := by
  intro m hm c hc hge
  obtain ⟨t, ht, hch⟩ := C13_chaos_of_text_all_sizes (W := worldFull menv cenv o) sortMatches_perm marksMultiByte_now
    (lazyLaws_full menv cenv o) (hchars_full menv cenv o) (nonEmpty_full menv cenv o) hincl hexcl hfit hthr hb h m hm c hc hge
  exact ⟨t, ht, chaosOfText_full_eq hch⟩

/-- **C13 for the fully modelled world**: for an input that fits the window (non-lazy path) the chaos
    of every regular candidate *is* `mess_ratio` of its whole decoded text (0 for the empty text) – exactly,
    the mean over the single chunk adds nothing (`x + 0 = x`, `x / 1 = x`). -/
theorem C13_chaos_is_mess_ratio_full (menv : Md.MdEnv) (cenv : Coh.CohEnv) (o : Oracle)
    {b : Bytes} {s : Settings} {incl excl : List Name}
    (hincl : canonList ianaNow s.incl = .ok incl) (hexcl : canonList ianaNow s.excl = .ok excl)
    (hfit : Fits b s) (hthr : s.thr.isNaN = false)
    {ms : List (Match Name Name)} (hb : b ≠ [])
    (h : fromBytes (worldFull menv cenv o) tablesNow sortMatches b s = .ok (.ok ms)) :
    ∀ m ∈ ms, ∀ c ∈ m.entries, Fl.ge c.chaos s.thr = false →
      (b.length ≤ tablesNow.tooBig ∨ tablesNow.isMultiByte c.enc = true) →
      ∃ t, c.text = some t ∧ c.chaos = (if t.isEmpty then Fl.zero else Md.messRatio menv t s.thr) :=
  fun m hm c hc hge _ =>
    C13_chaos_is_mess_ratio_full_all_sizes menv cenv o hincl hexcl hfit hthr hb h m hm c hc hge

end Charset
