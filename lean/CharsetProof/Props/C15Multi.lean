/-
  C15 for any number of input files: the tool's effect on the file system is exactly the ordered list of
  writes of its inputs, provided no write lands on an input that is still to come (`C15_multi_effect`: `--normalize`
  with any other flags; without `--normalize` nothing is written, `C15_no_normalize_no_write`).  `--normalize`
  without `--replace` is the instance in which the writes are "derived sibling := decoded text"; there the proviso
  follows from: no derived sibling name is itself one of the inputs (the point the proof forces, recorded as known
  finding C15:derived-name-collides-with-input).

  `--replace --force` is another instance of `C15_multi_effect`: with pairwise distinct inputs every input
  detected as a non-UTF encoding ends up holding exactly its decoded text, every other path is untouched.
-/
import CharsetProof.Props.C15
namespace Charset

def applyWrites (fs : FS) : List (Path × Bytes) → FS
  | [] => fs
  | w :: ws => applyWrites (fsPut fs w.1 w.2) ws

theorem fsGet_applyWrites_other {fs : FS} {ws : List (Path × Bytes)} {q : Path} (hq : ∀ w ∈ ws, w.1 ≠ q) :
    fsGet (applyWrites fs ws) q = fsGet fs q := by
  induction ws generalizing fs with
  | nil => rfl
  | cons w ws ih =>
    simp only [applyWrites]
    rw [ih (fun w' hw' => hq w' (List.mem_cons_of_mem _ hw'))]
    rw [fsGet_fsPut, if_neg (fun h => hq w List.mem_cons_self h.symm)]

/-- the last write to a path wins: hence the pairwise distinct targets -/
theorem fsGet_applyWrites_mem {fs : FS} {ws : List (Path × Bytes)} (hnd : (ws.map (·.1)).Nodup)
    {w : Path × Bytes} (hw : w ∈ ws) : fsGet (applyWrites fs ws) w.1 = some w.2 := by
  induction ws generalizing fs with
  | nil => cases hw
  | cons v vs ih =>
    simp only [applyWrites]
    simp only [List.map_cons, List.nodup_cons] at hnd
    rcases List.mem_cons.mp hw with rfl | hmem
    · rw [fsGet_applyWrites_other (q := w.1) fun v' hv' h => hnd.1 (h ▸ List.mem_map_of_mem hv')]
      rw [fsGet_fsPut, if_pos rfl]
    · exact ih hnd.2 hmem

/-- the write one input causes under the given flags, read off a file system (`--normalize` on) -/
def writeOfG (a : CliArgs) (confirm : Path → Bool) (detect : Bytes → Option (List MInfo)) (fs : FS) (p : Path) :
    Option (Path × Bytes) :=
  match fsGet fs p with
  | none => none
  | some content =>
    match detect content with
    | some (best :: _) =>
      if startsWithUtf best.encoding then none
      else if !a.replace then some (targetPath p best.encoding, best.text)
      else if a.force || confirm p then some (p, best.text)
      else none
    | _ => none

/-- the right-hand side is the `target` of `processFile`, as written there, paired with the decoded text -/
theorem writeOfG_eq {a : CliArgs} {confirm : Path → Bool} {detect : Bytes → Option (List MInfo)} {fs : FS} {p : Path}
    {content : Bytes} {best : MInfo} {rest : List MInfo} (hc : fsGet fs p = some content)
    (hd : detect content = some (best :: rest)) (hu : ¬startsWithUtf best.encoding = true) :
    writeOfG a confirm detect fs p =
      (if !a.replace then some (targetPath p best.encoding) else if a.force || confirm p then some p else none).map
        (·, best.text) := by
  simp only [writeOfG, hc, hd, hu, Bool.false_eq_true, ↓reduceIte, apply_ite (Option.map _), Option.map_some,
    Option.map_none]

theorem writeOfG_some {a : CliArgs} {confirm : Path → Bool} {detect : Bytes → Option (List MInfo)}
    {fs : FS} {p : Path} {w : Path × Bytes} (h : writeOfG a confirm detect fs p = some w) :
    ∃ content best rest, fsGet fs p = some content ∧ detect content = some (best :: rest) ∧
      startsWithUtf best.encoding = false ∧ w.2 = best.text ∧
      (a.replace = false ∧ w.1 = targetPath p best.encoding ∨ a.replace = true ∧ w.1 = p) := by
  revert h
  fun_cases writeOfG a confirm detect fs p <;> intro h <;> cases h
  -- the two branches that answer `some`: without `--replace` the sibling, with it the input itself
  next content hc best rest hd hu hr =>
    exact ⟨content, best, rest, hc, hd, Bool.eq_false_iff.mpr hu, rfl, .inl ⟨by simpa using hr, rfl⟩⟩
  next content hc best rest hd hu hr _ =>
    exact ⟨content, best, rest, hc, hd, Bool.eq_false_iff.mpr hu, rfl, .inr ⟨by simpa using hr, rfl⟩⟩

theorem processFile_writes {a : CliArgs} {detect : Bytes → Option (List MInfo)} {confirm : Path → Bool}
    (hn : a.normalize = true) {st st' : LoopSt} {p : Path}
    (h : processFile a detect confirm st p = .ok st') :
    st'.fs = match writeOfG a confirm detect st.fs p with
      | some w => fsPut st.fs w.1 w.2
      | none => st.fs := by
  revert h
  fun_cases processFile a detect confirm st p <;> intro h <;> cases h
  -- the successful branches of `processFile`: no match; report only (not here); UTF-*; no target; written
  next content hc hd => simp only [writeOfG, hc, hd]
  next hnn => simp [hn] at hnn
  next content hc best rest hd _ _ _ _ hu => simp only [writeOfG, hc, hd, hu, ↓reduceIte]
  next content hc best rest hd _ _ _ _ hu target ht =>
    simp only [target] at ht
    simp only [writeOfG_eq hc hd hu, ht]
    rfl
  next content hc best rest hd _ _ _ hu target t ht _ =>
    simp only [target] at ht
    simp only [writeOfG_eq hc hd hu, ht]
    rfl

/-- no write of an input lands on an input that comes later in the list -/
def NoLaterClobber (w : Path → Option (Path × Bytes)) : List Path → Prop
  | [] => True
  | p :: ps => (∀ x, w p = some x → x.1 ∉ ps) ∧ NoLaterClobber w ps

theorem noLaterClobber_iff {w : Path → Option (Path × Bytes)} : ∀ {ps : List Path},
    NoLaterClobber w ps ↔ ps.Pairwise fun p q => ∀ x, w p = some x → x.1 ≠ q
  | [] => ⟨fun _ => .nil, fun _ => trivial⟩
  | p :: ps => by
    rw [NoLaterClobber, List.pairwise_cons, noLaterClobber_iff (ps := ps)]
    exact and_congr_left' ⟨fun h q hq x hx hxq => h x hx (hxq ▸ hq), fun h x hx hmem => h _ hmem x hx rfl⟩

/-- the per-file loop: a successful pass leaves exactly the writes of its inputs, in order.  The inputs still
    to come are unchanged so far (`hinv`), so each write is the one read off the initial file system `fs0`. -/
theorem processAll_writes {a : CliArgs} {detect : Bytes → Option (List MInfo)} {confirm : Path → Bool}
    (hn : a.normalize = true) (fs0 : FS) :
    ∀ (ps : List Path) (st : LoopSt) {st' : LoopSt},
      NoLaterClobber (writeOfG a confirm detect fs0) ps →
      (∀ p ∈ ps, fsGet st.fs p = fsGet fs0 p) →
      processAll a detect confirm ps st = .ok st' →
      st'.fs = applyWrites st.fs (ps.filterMap (writeOfG a confirm detect fs0))
  | [], st, st', _, _, h => by cases h; rfl
  | p :: ps, st, st', hcl, hinv, h => by
    simp only [processAll] at h
    cases hp : processFile a detect confirm st p with
    | error e => rw [hp] at h; cases h
    | ok st1 =>
      rw [hp] at h
      have hfs := processFile_writes hn hp
      have hw : writeOfG a confirm detect st.fs p = writeOfG a confirm detect fs0 p := by
        unfold writeOfG; rw [hinv p List.mem_cons_self]
      rw [hw] at hfs
      have hinv' : ∀ q ∈ ps, fsGet st1.fs q = fsGet fs0 q := by
        intro q hq
        rw [hfs, ← hinv q (List.mem_cons_of_mem _ hq)]
        cases hwp : writeOfG a confirm detect fs0 p with
        | none => rfl
        | some w =>
          -- `q` is still to come, so the write of `p` does not land on it
          show fsGet (fsPut st.fs w.1 w.2) q = fsGet st.fs q
          rw [fsGet_fsPut, if_neg]
          intro hqt
          exact hcl.1 w hwp (hqt ▸ hq)
      rw [processAll_writes hn fs0 ps st1 hcl.2 hinv' h, hfs, List.filterMap_cons]
      cases writeOfG a confirm detect fs0 p <;> rfl

/-- **C15 (`--normalize` with any other flags, any number of inputs)**: on success the resulting file system is the initial one plus
    the writes of all inputs, in order – provided no write lands on an input that is still to come (`hcl`) -/
theorem C15_multi_effect (a : CliArgs) (detect : Bytes → Option (List MInfo)) (confirm : Path → Bool)
    (fs : FS) (hn : a.normalize = true)
    (hcl : NoLaterClobber (writeOfG a confirm detect fs) a.files)
    {rep : Report} (hok : (runCli a detect confirm fs).1 = .ok rep) :
    (runCli a detect confirm fs).2 = applyWrites fs (a.files.filterMap (writeOfG a confirm detect fs)) := by
  obtain ⟨st, hall, hfs⟩ := runCli_ok hok
  rw [hfs]
  exact processAll_writes hn fs a.files ⟨fs, []⟩ hcl (fun _ _ => rfl) hall

/-- the write one input causes under `--normalize` without `--replace`, read off a file system -/
def writeOf (detect : Bytes → Option (List MInfo)) (fs : FS) (p : Path) : Option (Path × Bytes) :=
  match fsGet fs p with
  | none => none
  | some content =>
    match detect content with
    | some (best :: _) =>
      if startsWithUtf best.encoding then none else some (targetPath p best.encoding, best.text)
    | _ => none

theorem writeOfG_no_replace {a : CliArgs} (hr : a.replace = false) (confirm : Path → Bool) :
    writeOfG a confirm = writeOf := by
  funext detect fs p
  simp only [writeOfG, writeOf, hr, Bool.not_false, ↓reduceIte]

/-- **C15 (any number of inputs, `--normalize` without `--replace`)**: on success the resulting file
    system is the initial one plus, in order, one write `derived sibling := decoded text` per input detected
    as a non-UTF encoding; consequently every input is byte-identical afterwards and every path that is not
    a derived sibling is untouched.  Hypothesis: no derived sibling name is itself an input. -/
theorem C15_multi_normalize (a : CliArgs) (detect : Bytes → Option (List MInfo)) (confirm : Path → Bool)
    (fs : FS) (hn : a.normalize = true) (hr : a.replace = false)
    (hcol : ∀ p ∈ a.files, ∀ p' ∈ a.files, ∀ w, writeOf detect fs p' = some w → w.1 ≠ p)
    {rep : Report} (hok : (runCli a detect confirm fs).1 = .ok rep) :
    (runCli a detect confirm fs).2 = applyWrites fs (a.files.filterMap (writeOf detect fs)) ∧
    (∀ p ∈ a.files, fsGet (runCli a detect confirm fs).2 p = fsGet fs p) ∧
    (∀ q, (∀ w ∈ a.files.filterMap (writeOf detect fs), w.1 ≠ q) →
      fsGet (runCli a detect confirm fs).2 q = fsGet fs q) := by
  have hmain : (runCli a detect confirm fs).2 = applyWrites fs (a.files.filterMap (writeOf detect fs)) := by
    rw [← writeOfG_no_replace hr confirm] at hcol ⊢
    refine C15_multi_effect a detect confirm fs hn (noLaterClobber_iff.mpr ?_) hok
    exact List.pairwise_of_forall_mem_list fun p' hp' p hp => hcol p hp p' hp'
  have hother : ∀ q, (∀ w ∈ a.files.filterMap (writeOf detect fs), w.1 ≠ q) →
      fsGet (runCli a detect confirm fs).2 q = fsGet fs q := by
    intro q hq
    rw [hmain]
    exact fsGet_applyWrites_other hq
  refine ⟨hmain, ?_, hother⟩
  intro p hp
  apply hother
  intro w hw
  obtain ⟨p', hp', hwp'⟩ := List.mem_filterMap.mp hw
  exact hcol p hp p' hp' w hwp'

/-- **C15 (every sibling receives its text)**: with pairwise distinct derived names, none of them an input, after a
    successful run each input detected as non-UTF has its sibling holding exactly the decoded text -/
theorem C15_multi_targets (a : CliArgs) (detect : Bytes → Option (List MInfo)) (confirm : Path → Bool)
    (fs : FS) (hn : a.normalize = true) (hr : a.replace = false)
    (hcol : ∀ p ∈ a.files, ∀ p' ∈ a.files, ∀ w, writeOf detect fs p' = some w → w.1 ≠ p)
    (hnd : ((a.files.filterMap (writeOf detect fs)).map (·.1)).Nodup)
    {rep : Report} (hok : (runCli a detect confirm fs).1 = .ok rep) :
    ∀ p ∈ a.files, ∀ w, writeOf detect fs p = some w →
      fsGet (runCli a detect confirm fs).2 w.1 = some w.2 := by
  intro p hp w hw
  rw [(C15_multi_normalize a detect confirm fs hn hr hcol hok).1]
  exact fsGet_applyWrites_mem hnd (List.mem_filterMap.mpr ⟨p, hp, hw⟩)

/-- the excluded point: two inputs `c.txt` (KOI8-R) and `c.koi8-r.txt`; the derived sibling of the first *is* the
    second input, so `hcol` fails (the tool overwrites the second input) -/
example :
    let fs : FS := [(nameOfStr "c.txt", [1]), (nameOfStr "c.koi8-r.txt", [2])]
    let detect : Bytes → Option (List MInfo) := fun b =>
      if b = [1] then some [⟨nameOfStr "koi8-r", [9, 9], []⟩] else some []
    writeOf detect fs (nameOfStr "c.txt") = some (nameOfStr "c.koi8-r.txt", [9, 9]) := by
  rw [nameOfStr_ofList, nameOfStr_ofList, nameOfStr_ofList]
  decide +kernel

theorem applyWrites_self {w : Path → Option (Path × Bytes)} (hself : ∀ p x, w p = some x → x.1 = p)
    {ps : List Path} (hnd : ps.Nodup) (fs : FS) :
    (∀ p ∈ ps, ∀ x, w p = some x → fsGet (applyWrites fs (ps.filterMap w)) p = some x.2) ∧
    (∀ q, q ∉ ps ∨ w q = none → fsGet (applyWrites fs (ps.filterMap w)) q = fsGet fs q) := by
  have hndw : ((ps.filterMap w).map (·.1)).Nodup := by
    refine List.pairwise_map.mpr (List.Pairwise.filterMap w ?_ hnd)
    intro p p' hpp x hx x' hx'
    rw [hself p x hx, hself p' x' hx']; exact hpp
  refine ⟨fun p hp x hx => ?_, fun q hq => fsGet_applyWrites_other fun x hx hxq => ?_⟩
  · rw [← hself p x hx]
    exact fsGet_applyWrites_mem hndw (List.mem_filterMap.mpr ⟨p, hp, hx⟩)
  · -- a write to `q` comes from the input `q` itself
    obtain ⟨p, hp, hwp⟩ := List.mem_filterMap.mp hx
    obtain rfl : p = q := (hself p x hwp).symm.trans hxq
    rcases hq with hq | hq
    · exact hq hp
    · rw [hq] at hwp; cases hwp

/-- **C15 (`--replace`, any number of distinct inputs)**: after a successful run every input that causes a write (with
    `--force`: every input detected as a non-UTF encoding; without it, those that are also confirmed) holds exactly its
    decoded text, every other input is byte-identical, and no other path is touched. -/
theorem C15_multi_replace_force (a : CliArgs) (detect : Bytes → Option (List MInfo)) (confirm : Path → Bool)
    (fs : FS) (hn : a.normalize = true) (hr : a.replace = true) (hnd : a.files.Nodup)
    {rep : Report} (hok : (runCli a detect confirm fs).1 = .ok rep) :
    (∀ p ∈ a.files, ∀ w, writeOfG a confirm detect fs p = some w →
        fsGet (runCli a detect confirm fs).2 p = some w.2) ∧
    (∀ p ∈ a.files, writeOfG a confirm detect fs p = none →
        fsGet (runCli a detect confirm fs).2 p = fsGet fs p) ∧
    (∀ q, q ∉ a.files → fsGet (runCli a detect confirm fs).2 q = fsGet fs q) := by
  have hself : ∀ p x, writeOfG a confirm detect fs p = some x → x.1 = p := by
    intro p x hx
    obtain ⟨_, _, _, _, _, _, _, h | h⟩ := writeOfG_some hx
    · exact absurd (hr.symm.trans h.1) (by decide)
    · exact h.2
  -- a write to its own input cannot land on a later one, the inputs being distinct
  have hcl : NoLaterClobber (writeOfG a confirm detect fs) a.files :=
    noLaterClobber_iff.mpr (hnd.imp fun hpq x hx => hself _ x hx ▸ hpq)
  rw [C15_multi_effect a detect confirm fs hn hcl hok]
  obtain ⟨h1, h2⟩ := applyWrites_self hself hnd fs
  exact ⟨h1, fun p _ hp => h2 p (.inr hp), fun q hq => h2 q (.inl hq)⟩

end Charset
