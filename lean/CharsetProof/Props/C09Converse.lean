/-
  C09 (converse), by the loop rule over the verdicts of the encodings probed alone (`detectLoop_rule_alone`).
-/
import CharsetProof.Props.C10
namespace Charset
variable {E L : Type} [DecidableEq E]

/-- rejected when probed alone: the probe ends in a soft failure (too much chaos) -/
def RejectedAlone (W : World E L) (T : Tables E) (c : Ctx E) (f : E) : Prop :=
  ∃ fb, probe W T c [] f = .ok (.softFail fb)

/-- **C09 (converse)** — if detection did not stop early, every encoding that passes the filters and is
    accepted when probed alone is a candidate of the result, unless a code page similar to it was
    rejected (soft-failed) when probed alone. Together with `C06_from_bytes` (early stop happens exactly
    at the first qualifying hint) this is the converse direction of C09. -/
theorem C09_converse {W : World E L} {T : Tables E} {sort : Sorter E L} (hperm : ∀ l, (sort l).Perm l)
    {b : Bytes} {s : Settings} {incl excl : List E} {st : LoopState E L}
    (h : detectLoop W T sort (ctxOf T b s) incl excl (probeOrder T.supported (prioritized T b s.preemptive)) {} = .ok (.done st)) :
    ∀ e ∈ T.supported, allowed incl excl e = true → ∀ m0, probe W T (ctxOf T b s) [] e = .ok (.accepted m0) →
      e ∈ allCands st.results ∨ ∃ f, T.similar e f = true ∧ RejectedAlone W T (ctxOf T b s) f := by
  let c := ctxOf T b s
  let order := probeOrder T.supported (prioritized T b s.preemptive)
  let Good : LoopState E L → E → Prop := fun st e =>
    e ∈ allCands st.results ∨ ∃ f, T.similar e f = true ∧ RejectedAlone W T c f
  let Inv : List E → LoopState E L → Prop := fun done st =>
    ∀ e ∈ done, allowed incl excl e = true → ∀ m0, probe W T c [] e = .ok (.accepted m0) → Good st e
  let Q : Outcome E L → Prop := fun o => match o with | .exit _ => True | .done st => Inv order st
  -- one more encoding probed: what held of the earlier ones is kept, `e` itself is accounted for
  have step : ∀ {done st st' e}, Inv done st → (∀ x, Good st x → Good st' x) →
      (allowed incl excl e = true → ∀ m0, probe W T c [] e = .ok (.accepted m0) → Good st' e) → Inv (done ++ [e]) st' := by
    intro done st st' e hinv hmono hnew x hx hal m0 hm0
    rcases List.mem_append.mp hx with hx | hx
    · exact hmono x (hinv x hx hal m0 hm0)
    · obtain rfl := List.mem_singleton.mp hx
      exact hnew hal m0 hm0
  have key : Q (.done st) := by
    refine detectLoop_rule_alone h Inv Q ?_ ?_ ?_ (fun st hinv => hinv) nofun
    · intro done st e rest _ hinv hcase
      refine step hinv (fun _ h => h) (fun hal m0 hm0 => ?_)
      rcases hcase with h0 | h1 | h1 | ⟨f, _, hsim, hrej⟩
      · rw [hal] at h0; cases h0
      · rw [h1] at hm0; cases hm0
      · rw [h1] at hm0; cases hm0
      · exact Or.inr ⟨f, hsim, hrej⟩
    · intro done st e rest fb _ hinv hal hp
      exact step hinv (fun _ h => by simpa [Good, softUpdate_results] using h)
        (fun _ m0 hm0 => by rw [hp] at hm0; cases hm0)
    · intro done st e rest m _ hinv hal hp
      have hf := accepted_facts hp
      -- the candidates of the new container are `m.enc`, which is `e`, and those of the old one
      have hmem : ∀ x, x ∈ allCands (append sort T.tooBig st.results m) ↔ x = e ∨ x ∈ allCands st.results := by
        intro x
        rw [(allCands_append_perm hperm T.tooBig st.results m hf.subs).mem_iff, List.mem_cons, hf.enc]
      refine ⟨fun _ => step hinv ?_ ?_, fun _ _ _ => trivial⟩
      · intro x hx
        exact hx.imp_left fun h1 => (hmem x).mpr (.inr h1)
      · intro _ _ _
        exact .inl ((hmem e).mpr (.inl rfl))
  intro e he hal m0 hm0
  exact key e (mem_probeOrder_iff.mpr he) hal m0 hm0
end Charset
