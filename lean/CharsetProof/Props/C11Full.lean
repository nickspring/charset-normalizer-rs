/-
  C11 at the level of the fully modelled world: the only channel through which earlier calls could reach a detection in
  the model is the table of recorded answers (`Oracle`) the world is built over.  For the fully modelled world that table is
  never consulted for anything the detection asks – every decoder of a supported encoding, the mess detector, the coherence
  detector, the merge and the language table are Lean definitions – so the result is a function of the bytes, the settings
  and the two Unicode environments alone.
-/
import CharsetProof.Lemmas.Congr
import CharsetProof.Lemmas.CharsLeNow
namespace Charset

theorem worldFull_agree (menv : Md.MdEnv) (cenv : Coh.CohEnv) (o o' : Oracle) :
    (worldFull menv cenv o).AgreeOn (worldFull menv cenv o') tablesNow.supported where
  decode := fun _ he x => by
    rw [worldFull_decode, worldFull_decode]
    exact decodeNow_oracle_irrelevant o o' false he x
  decodeChunk := fun _ he x => by
    rw [worldFull_decodeChunk, worldFull_decodeChunk]
    exact decodeNow_oracle_irrelevant o o' true he x
  target := fun _ _ => rfl
  mess := rfl
  coh := rfl
  merge := rfl

/-- **C11, fully modelled world**: whatever answers were recorded before – none, some, others – the detection is the same -/
theorem C11_full_history_irrelevant (menv : Md.MdEnv) (cenv : Coh.CohEnv) (o o' : Oracle) (b : Bytes) (s : Settings) :
    fromBytes (worldFull menv cenv o) tablesNow sortMatches b s =
      fromBytes (worldFull menv cenv o') tablesNow sortMatches b s :=
  fromBytes_congr (worldFull_agree menv cenv o o') sortMatches b s

end Charset
