/-
  C01 — every reported candidate really decodes the input.
-/
import CharsetProof.Lemmas.EntryFacts
import CharsetProof.Lemmas.SortPerm
import CharsetProof.Props.C07
import CharsetProof.Lemmas.CharsLeNow
import CharsetProof.Lemmas.Table
namespace Charset
variable {E L : Type} [DecidableEq E]

def stripMark (T : Tables E) (b : Bytes) (e : E) : Bytes :=
  match sigOf T.marks b with
  | some (e', mk) => if e' = e then b.drop mk.length else b
  | none => b

theorem drop_startIdx {T : Tables E} {b : Bytes} {s : Settings} {e : E} :
    b.drop (startIdxOf (ctxOf T b s) e) = stripMark T b e := by
  unfold stripMark
  cases h : sigOf T.marks b with
  | none => simp [startIdxOf, bomHereOf, ctxOf, h]
  | some p => by_cases he : p.1 = e <;> simp [startIdxOf, bomHereOf, ctxOf, h, he]

theorem stripMark_single_byte {T : Tables E} (hmb : ∀ em ∈ T.marks, T.isMultiByte em.1 = true) {b : Bytes} {e : E}
    (he : T.isMultiByte e = false) : stripMark T b e = b := by
  unfold stripMark
  split
  · next e' mk hsig =>
    split
    · next hee => exact absurd (hee ▸ hsig) (sigOf_ne_of_single_byte hmb he)
    · rfl
  · rfl

/-- laws of single-byte codecs, used only on the lazy path (> `TOO_BIG_SEQUENCE` bytes); `lazyLaws_now` proves them
    for the table codecs of the model -/
structure LazyLaws (W : World E L) (T : Tables E) : Prop where
  chunkEq : ∀ e x, e ∈ T.supported → T.isMultiByte e = false → W.decodeChunk e x = W.decode e x
  hom : ∀ e x y tx ty, e ∈ T.supported → T.isMultiByte e = false →
    W.decode e x = .ok (some tx) → W.decode e y = .ok (some ty) →
    W.decode e (x ++ y) = .ok (some (tx ++ ty))
  noFeff : ∀ e x t, e ∈ T.supported → T.isMultiByte e = false → W.decode e x = .ok (some t) →
    t.head? ≠ some 0xFEFF

/-- A candidate that was decoded in full (input up to `TOO_BIG_SEQUENCE`, or a multi-byte encoding) carries its
    strict decode: no law of the world is needed.  On the lazy path (a single-byte encoding, larger input) the head
    was test-decoded, the remainder too, and the exposed text is the chunk-mode decode of everything; under the laws
    that is the strict decode of the input. -/
theorem entry_decodes {W : World E L} {T : Tables E} {b : Bytes} {s : Settings} {incl excl : List E} {c : Sub E L}
    (f : EntryCommon W T (ctxOf T b s) incl excl c)
    (hw : lazyOf T (ctxOf T b s) c.enc = true → (∀ em ∈ T.marks, T.isMultiByte em.1 = true) ∧ LazyLaws W T) :
    ∃ t, W.decode c.enc (stripMark T b c.enc) = .ok (some t) ∧ c.text = some t := by
  cases hl : lazyOf T (ctxOf T b s) c.enc with
  | false =>
    obtain ⟨t0, hdec, ht, _⟩ := f.text.1 hl
    rw [ctxOf_b, drop_startIdx] at hdec
    exact ⟨t0, hdec, ht⟩
  | true =>
    obtain ⟨hmb, laws⟩ := hw hl
    have hnmb := (lazyOf_ctxOf_iff.mp hl).2
    have hstart := startIdxOf_eq_zero (bomHereOf_ctxOf_false hmb (b := b) (s := s) hnmb)
    obtain ⟨t0, r, hdec, _, _, hchunk, ht⟩ := f.text.2 hl
    obtain ⟨t2, hrem2⟩ := f.remainder hl
    rw [hstart] at hdec
    simp only [List.drop_zero, Nat.sub_zero, ctxOf_b] at hdec hrem2 hchunk
    have hwhole := laws.hom c.enc _ _ t0 t2 f.supported hnmb hdec hrem2
    rw [List.take_append_drop] at hwhole
    rw [laws.chunkEq c.enc b f.supported hnmb, hwhole] at hchunk
    cases hchunk
    refine ⟨t0 ++ t2, by rwa [stripMark_single_byte hmb hnmb], ?_⟩
    rw [ht, Option.map_some, stripFeff_of_head (laws.noFeff c.enc b _ f.supported hnmb hwhole)]

/-- **C01 (decodes + raw)** — for every world satisfying the lazy-path laws and every table set whose
    marked encodings are multi-byte, on non-empty input every candidate entry `c` (main encoding or
    alternative) of every returned match hands back the input bytes unmodified and exposes exactly
    the strict decode of the input minus `c.enc`'s own mark. -/
theorem C01_decodes {W : World E L} {T : Tables E} {sort : Sorter E L}
    (hperm : ∀ l, (sort l).Perm l) (hmb : ∀ em ∈ T.marks, T.isMultiByte em.1 = true) (laws : LazyLaws W T)
    {b : Bytes} {s : Settings} {incl excl : List E}
    (hincl : canonList T.ianaName s.incl = .ok incl) (hexcl : canonList T.ianaName s.excl = .ok excl)
    {ms : List (Match E L)} (hb : b ≠ []) (h : fromBytes W T sort b s = .ok (.ok ms)) :
    ∀ m ∈ ms, ∀ c ∈ m.entries,
      c.raw = b ∧ ∃ t, W.decode c.enc (stripMark T b c.enc) = .ok (some t) ∧ c.text = some t := by
  intro m hm c hc
  have f := fromBytes_entry_common hperm hincl hexcl hb h hm hc
  exact ⟨f.raw, entry_decodes f fun _ => ⟨hmb, laws⟩⟩

/-- C01 without any law of the world, for inputs that are not decoded lazily -/
theorem C01_decodes_small {W : World E L} {T : Tables E} {sort : Sorter E L}
    (hperm : ∀ l, (sort l).Perm l) {b : Bytes} {s : Settings} {incl excl : List E}
    (hincl : canonList T.ianaName s.incl = .ok incl) (hexcl : canonList T.ianaName s.excl = .ok excl)
    {ms : List (Match E L)} (hb : b ≠ []) (hsmall : b.length ≤ T.tooBig)
    (h : fromBytes W T sort b s = .ok (.ok ms)) :
    ∀ m ∈ ms, ∀ c ∈ m.entries,
      c.raw = b ∧ ∃ t, W.decode c.enc (stripMark T b c.enc) = .ok (some t) ∧ c.text = some t := by
  intro m hm c hc
  have f := fromBytes_entry_common hperm hincl hexcl hb h hm hc
  refine ⟨f.raw, entry_decodes f fun hl => ?_⟩
  rw [lazyOf_ctxOf_false (Or.inl hsmall)] at hl
  cases hl

theorem lazyLaws_now (o : Oracle) : LazyLaws (worldNow o) tablesNow where
  chunkEq := by
    intro e x hs hmb
    obtain ⟨tbl, hc, _⟩ := codecNow_table hs hmb
    rw [worldNow_decode, worldNow_decodeChunk, decodeNow_table hc hmb, decodeNow_table hc hmb]
  hom := by
    intro e x y tx ty hs hmb hx hy
    obtain ⟨tbl, hc, _⟩ := codecNow_table hs hmb
    rw [worldNow_decode, decodeNow_table_some hc hmb] at hx hy ⊢
    exact tableStrict_append hx hy
  noFeff := by
    intro e x t hs hmb hx hhead
    obtain ⟨tbl, hc, hno⟩ := codecNow_table hs hmb
    rw [worldNow_decode, decodeNow_table_some hc hmb] at hx
    have hmem : (0xFEFF : Nat) ∈ t := List.mem_of_mem_head? hhead
    have hc2 : tbl.contains 0xFEFF = true := by simpa using tableStrict_mem tbl x t hx _ hmem
    rw [hno] at hc2; cases hc2

/-- the lazy-path laws speak about the decoders only, which the fully modelled world shares with `worldNow` -/
theorem lazyLaws_full (menv : Md.MdEnv) (cenv : Coh.CohEnv) (o : Oracle) :
    LazyLaws (worldFull menv cenv o) tablesNow := by
  have h := lazyLaws_now o
  constructor
  · rw [worldFull_decode, worldFull_decodeChunk, ← worldNow_decode, ← worldNow_decodeChunk]; exact h.chunkEq
  · rw [worldFull_decode, ← worldNow_decode]; exact h.hom
  · rw [worldFull_decode, ← worldNow_decode]; exact h.noFeff

/-- **C01 for the current tree**: every candidate's text is the model's strict decode (a Lean definition for
    every supported encoding, `decodeNow_supported`: tables, UTF-8, UTF-16, the multi-byte legacy decoders) of the
    input minus its own mark -/
theorem C01_decodes_current (o : Oracle) {b : Bytes} {s : Settings} {incl excl : List Name}
    (hincl : canonList ianaNow s.incl = .ok incl) (hexcl : canonList ianaNow s.excl = .ok excl)
    {ms : List (Match Name Name)} (hb : b ≠ [])
    (h : fromBytes (worldNow o) tablesNow sortMatches b s = .ok (.ok ms)) :
    ∀ m ∈ ms, ∀ c ∈ m.entries,
      c.raw = b ∧ ∃ t, (worldNow o).decode c.enc (stripMark tablesNow b c.enc) = .ok (some t) ∧ c.text = some t :=
  C01_decodes sortMatches_perm marksMultiByte_now (lazyLaws_now o) hincl hexcl hb h

end Charset
