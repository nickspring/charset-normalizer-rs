/-
  C14 — detecting from a path equals detecting from the file's bytes.
  The model of `from_path` is one `match`; what carries weight here is the correspondence (T3) with
  real files and real I/O faults. Level: proof of the decision logic, partial (the OS read path is
  observed, not proved).
-/
import CharsetProof.Model.Path
namespace Charset
variable {E L : Type} [DecidableEq E]

/-- **C14** — for a readable file of any size (empty included) the result is exactly the result of
    `from_bytes` on the complete content with the same settings -/
theorem C14_file {W : World E L} {T : Tables E} {sort : Sorter E L} {fs : Name → Node} {p : Name}
    {b : Bytes} (s : Settings) (h : fs p = .file b) :
    fromPath W T sort fs p s = .detected (fromBytes W T sort b s) := by
  unfold fromPath; rw [h]

/-- a missing path, a directory, an unreadable file, a path through a non-directory or a failing read
    produce a returned error – never a partial detection result -/
theorem C14_faults {W : World E L} {T : Tables E} {sort : Sorter E L} {fs : Name → Node} {p : Name}
    (s : Settings) (h : ∀ b, fs p ≠ .file b) :
    ∃ e, fromPath W T sort fs p s = .ioError e := by
  unfold fromPath
  cases hn : fs p
  case file b => exact absurd hn (h b)
  all_goals exact ⟨_, rfl⟩

/-- a detection result is returned only for readable files, and then for their whole content -/
theorem C14_detected_iff {W : World E L} {T : Tables E} {sort : Sorter E L} {fs : Name → Node} {p : Name}
    (s : Settings) {r : M (Except Err (List (Match E L)))}
    (h : fromPath W T sort fs p s = .detected r) : ∃ b, fs p = .file b ∧ r = fromBytes W T sort b s := by
  unfold fromPath at h
  split at h <;> cases h
  exact ⟨_, ‹_›, rfl⟩

example : ∃ (fs : Name → Node), fs [97] = .file [1, 2, 3] ∧ fs [98] = .dir :=
  ⟨fun p => if p = [97] then .file [1, 2, 3] else .dir, by decide, by decide⟩

end Charset
