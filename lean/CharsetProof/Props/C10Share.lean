/-
  C10 (share-a-match clauses) — for inputs of at most TOO_BIG_SEQUENCE bytes: every alternative listed
  beside a match yields the same text and (within f32::EPSILON) the same chaos as the match, and no two
  matches carry identical text and identical (finite) chaos (`C10_share`; the merge rule of
  `CharsetMatches::append`, src/entity.rs:326-341).
-/
import CharsetProof.Lemmas.F32
import CharsetProof.Lemmas.Master
namespace Charset
variable {E L : Type}

theorem sameOutput_of_identical (m item : Match E L) (ht : m.text = item.text) (hc : m.chaos = item.chaos)
    (hfin : item.chaos.isFinite = true) : sameOutput m item = true := by
  refine sameOutput_iff.mpr ⟨ht, ?_⟩
  -- the difference is `0`, and `0 < f32::EPSILON`
  rw [hc, Fl.sub_self_finite _ hfin]
  decide +kernel

def Distinct (items : List (Match E L)) : Prop :=
  items.Pairwise (fun a b => ¬ (a.text = b.text ∧ a.chaos = b.chaos ∧ a.chaos.isFinite = true))

def SubsAgree (m : Match E L) : Prop :=
  ∀ s ∈ m.subs, s.text = m.text ∧ Fl.lt (Fl.abs (Fl.sub m.chaos s.chaos)) F32.epsilon = true

/-- `Distinct` looks at text and chaos only, and not at the order -/
theorem distinct_of_perm {l l' : List (Match E L)}
    (h : (l.map fun m => (m.text, m.chaos)).Perm (l'.map fun m => (m.text, m.chaos))) (hd : Distinct l) :
    Distinct l' := by
  have key (l : List (Match E L)) := List.pairwise_map (l := l) (f := fun m => (m.text, m.chaos))
    (R := fun a b => ¬ (a.1 = b.1 ∧ a.2 = b.2 ∧ a.2.isFinite = true))
  refine (key l').mp ((h.pairwise_iff ?_).mp ((key l).mpr hd))
  intro a b hab hba
  exact hab ⟨hba.1.symm, hba.2.1.symm, by rw [← hba.2.1]; exact hba.2.2⟩

theorem append_distinct {sort : Sorter E L} (hperm : ∀ l, (sort l).Perm l) {tooBig : Nat}
    (items : List (Match E L)) (item : Match E L) (hsmall : item.raw.length ≤ tooBig) (hsubs : item.subs = [])
    (hd : Distinct items) (hs : ∀ m ∈ items, SubsAgree m) :
    Distinct (append sort tooBig items item) ∧ ∀ m ∈ append sort tooBig items item, SubsAgree m := by
  refine ⟨?_, fun x hx => ?_⟩
  · rcases append_cases sort tooBig items item with ⟨pre, m, post, rfl, _, _, h4⟩ | ⟨hnone, h4⟩
    · -- the element that gained a sub-match kept its text and chaos
      rw [h4]
      exact distinct_of_perm (.of_eq (by simp)) hd
    · rw [h4]
      have hnone := hnone.resolve_left (by omega)
      apply distinct_of_perm ((hperm _).symm.map _)
      unfold Distinct at hd ⊢
      rw [List.pairwise_append]
      refine ⟨hd, by simp, ?_⟩
      intro a ha b hb
      simp only [List.mem_singleton] at hb
      subst hb
      intro ⟨ht, hc, hf⟩
      have := sameOutput_of_identical a b ht hc (by rw [← hc]; exact hf)
      rw [hnone a ha] at this; cases this
  · rcases append_mem hperm hx with h | rfl | ⟨m, hm, h2, rfl⟩
    · exact hs x h
    · intro s hsub; rw [hsubs] at hsub; cases hsub
    · intro s hsub
      rcases List.mem_append.mp hsub with hsub | hsub
      · exact hs m hm s hsub
      · -- the new sub-match was merged because its output is the same
        rw [List.mem_singleton.mp hsub]
        exact (sameOutput_iff.mp h2).imp_left Eq.symm

variable [DecidableEq E] in
theorem C10_share {W : World E L} {T : Tables E} {sort : Sorter E L} (hperm : ∀ l, (sort l).Perm l)
    {b : Bytes} {s : Settings} {ms : List (Match E L)} (hb : b ≠ []) (hsmall : b.length ≤ T.tooBig)
    (h : fromBytes W T sort b s = .ok (.ok ms)) :
    Distinct ms ∧ ∀ m ∈ ms, SubsAgree m := by
  obtain ⟨incl, excl, hincl, hexcl⟩ := fromBytes_ok_canon h
  have key := fromBytes_results hperm hincl hexcl (fun _ rs => Distinct rs ∧ ∀ m ∈ rs, SubsAgree m)
    (fun fb => fb.subs = []) ⟨List.Pairwise.nil, by simp⟩ (fun _ _ _ h => h) ?_ ?_ hb h
  · rcases key with h1 | ⟨_, _, rs, x, _, h1, hx, rfl⟩ | ⟨fb, h1, rfl⟩
    · exact h1
    · exact ⟨List.pairwise_singleton _ _, by simpa using h1.2 x hx⟩
    · exact ⟨List.pairwise_singleton _ _, by simp [SubsAgree, h1]⟩
  · intro done rest rs e m _ _ hinv hp
    have f := accepted_facts hp
    exact append_distinct hperm rs m (by rw [f.raw]; exact hsmall) f.subs hinv.1 hinv.2
  · intro done rest e fb _ _ hp
    exact (fallback_facts hp).subs

end Charset
