/-
  C05 — include/exclude are exact filters and accept any label spelling.
-/
import CharsetProof.Lemmas.EntryFacts
import CharsetProof.Lemmas.Names
import CharsetProof.Lemmas.SortPerm
namespace Charset
variable {E L : Type} [DecidableEq E]

/-- what "belongs to the include list when one is given and never to the exclude list" means -/
def Filtered (incl excl : List E) (e : E) : Prop := (incl = [] ∨ e ∈ incl) ∧ e ∉ excl

/-- **C05 (a)**: for *every* world, table set, permutation-sort, non-empty input and settings, every
    candidate (main or alternative) of every returned match passes the canonicalised filters. -/
theorem C05_filters {W : World E L} {T : Tables E} {sort : Sorter E L}
    (hperm : ∀ l, (sort l).Perm l) {b : Bytes} {s : Settings} {incl excl : List E}
    (hincl : canonList T.ianaName s.incl = .ok incl) (hexcl : canonList T.ianaName s.excl = .ok excl)
    {ms : List (Match E L)} (hb : b ≠ []) (h : fromBytes W T sort b s = .ok (.ok ms)) :
    ∀ m ∈ ms, ∀ e ∈ m.cands, Filtered incl excl e := by
  intro m hm e he
  rw [Match.cands_eq] at he
  obtain ⟨c, hc, rfl⟩ := List.mem_map.mp he
  exact allowed_iff.mp (fromBytes_entry_common hperm hincl hexcl hb h hm hc).allowed

/-- **C05 (c)**: an entry that is not a known label makes detection return an error naming it
    (include list first, then exclude list); nothing is silently ignored. -/
theorem C05_unknown_include {W : World E L} {T : Tables E} {sort : Sorter E L} {b : Bytes} {s : Settings}
    {n : Name} (h : canonList T.ianaName s.incl = .error n) :
    fromBytes W T sort b s = .ok (.error (.badInclude n)) ∧ n ∈ s.incl ∧ T.ianaName n = none := by
  refine ⟨?_, canonList_error h⟩
  unfold fromBytes; simp [h]

theorem C05_unknown_exclude {W : World E L} {T : Tables E} {sort : Sorter E L} {b : Bytes} {s : Settings}
    {incl : List E} {n : Name} (hi : canonList T.ianaName s.incl = .ok incl)
    (h : canonList T.ianaName s.excl = .error n) :
    fromBytes W T sort b s = .ok (.error (.badExclude n)) ∧ n ∈ s.excl ∧ T.ianaName n = none := by
  refine ⟨?_, canonList_error h⟩
  unfold fromBytes; simp [hi, h]

/-- **C05 (b)**: the result depends on the filter lists only through their canonical forms, so any
    two spellings with the same canonical lists give the same result -/
theorem C05_spelling_irrelevant {W : World E L} {T : Tables E} {sort : Sorter E L} {b : Bytes}
    {s s' : Settings}
    (hi : canonList T.ianaName s.incl = canonList T.ianaName s'.incl)
    (he : canonList T.ianaName s.excl = canonList T.ianaName s'.excl)
    (hrest : s'.steps = s.steps ∧ s'.chunk = s.chunk ∧ s'.thr = s.thr ∧ s'.langThr = s.langThr ∧
      s'.preemptive = s.preemptive ∧ s'.fallback = s.fallback ∧ s'.trace = s.trace) :
    fromBytes W T sort b s' = fromBytes W T sort b s := by
  obtain ⟨h1, h2, h3, h4, h5, h6, h7⟩ := hrest
  exact fromBytes_settings_congr hi.symm he.symm (by unfold ctxOf; rw [h1, h2, h3, h4, h5, h6, h7]) h5

abbrev sorterNow : Sorter Name Name := sortMatches

theorem C05_filters_current (o : Oracle) {b : Bytes} {s : Settings} {incl excl : List Name}
    (hincl : canonList ianaNow s.incl = .ok incl) (hexcl : canonList ianaNow s.excl = .ok excl)
    {ms : List (Match Name Name)} (hb : b ≠ [])
    (h : fromBytes (worldNow o) tablesNow sorterNow b s = .ok (.ok ms)) :
    ∀ m ∈ ms, ∀ e ∈ m.cands, Filtered incl excl e :=
  C05_filters sortMatches_perm hincl hexcl hb h

/-- C05 (b) for the current tables: entries spelling *supported* encodings may be replaced by their
    canonical names. (`iana_name` is the identity on supported names by construction; for the unsupported
    canonical name "replacement" it is not, which is outside the property's quantifier: "entries may spell a
    supported encoding".) -/
theorem C05_canonical_current (o : Oracle) {b : Bytes} {s : Settings} {incl excl : List Name}
    (hincl : canonList ianaNow s.incl = .ok incl) (hexcl : canonList ianaNow s.excl = .ok excl)
    (hsi : ∀ e ∈ incl, e ∈ Gen.supported) (hse : ∀ e ∈ excl, e ∈ Gen.supported) :
    fromBytes (worldNow o) tablesNow sorterNow b { s with incl := incl, excl := excl } =
      fromBytes (worldNow o) tablesNow sorterNow b s := by
  refine C05_spelling_irrelevant (T := tablesNow) ?_ ?_ (by simp)
  · exact hincl.trans (canonList_supported hsi).symm
  · exact hexcl.trans (canonList_supported hse).symm

/-- the empty input is the excluded point of (a): the filters are never consulted (a *finding*) -/
theorem C05_empty_input_ignores_filters {W : World E L} {T : Tables E} {sort : Sorter E L} {s : Settings}
    {incl excl : List E}
    (hincl : canonList T.ianaName s.incl = .ok incl) (hexcl : canonList T.ianaName s.excl = .ok excl) :
    fromBytes W T sort [] s = .ok (.ok [Match.default T.utf8]) := by
  unfold fromBytes; simp [hincl, hexcl]

/-- non-vacuity: the hypotheses of (a) are satisfiable (a filter list that canonicalises) -/
example : (canonList ianaNow [[85,84,70,56]]).toOption = some [nUTF8] := by decide +kernel

end Charset
