/-
  C18 — every reportable encoding name is canonical, usable and safely aliased.
  All statements are about the tables dumped from the freshly compiled crate (tie T1) and are
  closed by kernel evaluation of Bool-valued checks, lifted to ∀ by list lemmas.

  Aliases decode identically, for every codec (`C18_alias_decodes_identically`): with the multi-byte legacy decoders inside the model, "the alias
  resolves to the same codec" yields "decodes every byte string to the same result" by computation, not by appeal to the
  identity of an opaque codec object.
-/
import CharsetProof.Lemmas.Names
import CharsetProof.Lemmas.Codec
namespace Charset

/-- identity of the codec a name resolves to (`encoding_from_whatwg_label(name).name()`) -/
def codecIdNow (e : Name) : Option Name := lookupName Gen.labelCodec (normLabel e)

/-- names detection can report: supported names whose codec resolves (in the dumped tables everything but `hz`) -/
def reportableNow : List Name := Gen.supported.filter (fun n => (codecIdNow n).isSome)

theorem reportable_supported {n : Name} (h : n ∈ reportableNow) : n ∈ Gen.supported :=
  (List.mem_filter.mp h).1

/-- T1 obligation: the names for which the crate's own decode helper resolves a codec are exactly the
    names the model treats as reportable (a name gaining a codec without an alias entry, or the helper
    resolving names differently from the label table, breaks this) -/
theorem helper_resolves_reportable : (Gen.helperResolves == reportableNow) = true := by
  simp only [reportableNow, codecIdNow, lookupName_eq_byLast Gen.labelCodec]
  decide +kernel

/-- non-vacuity: there are reportable names, and `hz` is not one of them -/
example : reportableNow.length = 40 ∧ reportableNow.contains [104, 122] = false := by
  rw [← beq_iff_eq.mp helper_resolves_reportable]
  decide

/-- **C18 (canonical)**: every supported name canonicalises to itself … -/
theorem C18_canonical {n : Name} (h : n ∈ Gen.supported) : ianaNow n = some n := ianaNow_supported h

/-- … hence is accepted back by the include/exclude canonicaliser … -/
theorem C18_accepted_by_filters {n : Name} (h : n ∈ Gen.supported) : canonList ianaNow [n] = .ok [n] :=
  canonList_supported fun _ he => List.mem_singleton.mp he ▸ h

/-- … and by lookup-by-name: looking up a candidate name returns the first match listing it -/
theorem C18_lookup {n : Name} (h : n ∈ Gen.supported) (items : List (Match Name Name)) :
    getByEncoding ianaNow items n = findByCand items n := by
  unfold getByEncoding findByCand
  rw [ianaNow_supported h]

theorem C18_lookup_finds {n : Name} (h : n ∈ Gen.supported) {items : List (Match Name Name)} {m : Match Name Name}
    (hm : m ∈ items) (hc : n ∈ m.cands) :
    ∃ m', getByEncoding ianaNow items n = some m' ∧ n ∈ m'.cands := by
  rw [C18_lookup h]
  obtain ⟨m', hf⟩ := findByCand_of_mem hm hc
  exact ⟨m', hf, (findByCand_mem hf).2⟩

/-- one pass over the alias table for the three obligations that follow: every reportable name has an entry, and
    every alias in it that the canonicaliser accepts resolves to the name itself or to a name of the same codec and the
    same kind. Shaped for the kernel: the names are read off `Gen.helperResolves` (`helper_resolves_reportable` has
    computed `reportableNow` once already), and most aliases resolve to the name itself, for which no codec is looked up. -/
def aliasesOkB : Bool :=
  Gen.helperResolves.all (fun n =>
    match lookupName Gen.aliases n with
    | none => false
    | some as => as.all (fun a =>
        match ianaNow a with
        | none => true
        | some c => c == n ||
            (codecIdNow c == codecIdNow n && Gen.multiByte.contains c == Gen.multiByte.contains n)))
theorem aliasesOk : aliasesOkB = true := by
  -- nearly all of the evaluation is `ianaNow a` for the 235 aliases: the supported list by first, the label table by last character
  simp only [aliasesOkB, ianaNow, ianaNameOf, lookupName_eq_byLast Gen.labels, contains_eq_byHead Gen.supported]
  decide +kernel

theorem aliases_each {n : Name} (h : n ∈ reportableNow) :
    ∃ as, lookupName Gen.aliases n = some as ∧ ∀ a ∈ as, ∀ c, ianaNow a = some c →
      codecIdNow c = codecIdNow n ∧ Gen.multiByte.contains c = Gen.multiByte.contains n := by
  have := List.all_eq_true.mp aliasesOk n (beq_iff_eq.mp helper_resolves_reportable ▸ h)
  split at this
  · cases this
  · rename_i as has
    refine ⟨as, has, fun a ha c hc => ?_⟩
    have := List.all_eq_true.mp this a ha
    simp only [hc, Bool.or_eq_true, Bool.and_eq_true, beq_iff_eq] at this
    rcases this with rfl | h
    · exact ⟨rfl, rfl⟩
    · exact h

theorem aliases_of {n a c : Name} {as : List Name} (h : n ∈ reportableNow)
    (has : lookupName Gen.aliases n = some as) (ha : a ∈ as) (hc : ianaNow a = some c) :
    codecIdNow c = codecIdNow n ∧ Gen.multiByte.contains c = Gen.multiByte.contains n := by
  obtain ⟨as', has', hall⟩ := aliases_each h
  cases has.symm.trans has'
  exact hall a ha c hc

/-- a Bool sweep of the alias table holds as soon as its test follows from what `aliases_each` gives -/
theorem aliases_all {P : Name → Name → Bool}
    (hP : ∀ c n, codecIdNow c = codecIdNow n → Gen.multiByte.contains c = Gen.multiByte.contains n → P c n = true) :
    reportableNow.all (fun n =>
      match lookupName Gen.aliases n with
      | none => false
      | some as => as.all (fun a =>
          match ianaNow a with
          | none => true
          | some c => P c n)) = true :=
  List.all_eq_true.mpr fun n h => by
    obtain ⟨as, has, hall⟩ := aliases_each h
    simp only [has]
    refine List.all_eq_true.mpr fun a ha => ?_
    split
    · rfl
    · rename_i c hc
      exact hP c n (hall a ha c hc).1 (hall a ha c hc).2

/-- **C18 (aliases available)**: T1 obligation — every reportable name has an alias entry
    (`encoding_aliases()` does not hit its `expect`) -/
def aliasesAvailableB : Bool := reportableNow.all (fun n => (lookupName Gen.aliases n).isSome)
theorem C18_aliases_available : aliasesAvailableB = true :=
  List.all_eq_true.mpr fun n h => by
    obtain ⟨as, has, _⟩ := aliases_each h
    rw [has]; rfl

theorem C18_aliases_available_each {n : Name} (h : n ∈ reportableNow) : ∃ as, lookupName Gen.aliases n = some as :=
  (aliases_each h).imp fun _ => And.left

/-- **C18 (aliases safe)**: T1 obligation — every listed alias of a reportable name that the
    canonicaliser accepts resolves to a name served by the *same codec* (identity of the codec
    object); that it then decodes every byte string identically is `C18_alias_decodes_identically` -/
def aliasesSafeB : Bool :=
  reportableNow.all (fun n =>
    match lookupName Gen.aliases n with
    | none => false
    | some as => as.all (fun a =>
        match ianaNow a with
        | none => true
        | some c => codecIdNow c == codecIdNow n))
theorem C18_aliases_safe : aliasesSafeB = true := aliases_all fun _ _ h _ => beq_iff_eq.mpr h

theorem C18_aliases_safe_each {n a c : Name} {as : List Name} (h : n ∈ reportableNow)
    (has : lookupName Gen.aliases n = some as) (ha : a ∈ as) (hc : ianaNow a = some c) :
    codecIdNow c = codecIdNow n :=
  (aliases_of h has ha hc).1

/-- T1 obligation: an alias that resolves names an encoding of the same kind (single- / multi-byte) as the name it belongs to -/
def aliasesSameKindB : Bool :=
  reportableNow.all (fun n =>
    match lookupName Gen.aliases n with
    | none => false
    | some as => as.all (fun a =>
        match ianaNow a with
        | none => true
        | some c => Gen.multiByte.contains c == Gen.multiByte.contains n))

theorem C18_aliases_same_kind : aliasesSameKindB = true := aliases_all fun _ _ _ h => beq_iff_eq.mpr h

theorem codecNow_congr {c n : Name} (h : codecIdNow c = codecIdNow n) : codecNow c = codecNow n := by
  unfold codecNow; unfold codecIdNow at h; rw [h]

/-- same codec identity ⇒ same decoder in the model, for every byte string and both modes
    (codecs other than the multi-byte legacy ones; `same_codec_same_decode_supported` below has no such
    restriction) -/
theorem same_codec_same_decode (o : Oracle) {c n : Name} (h : codecIdNow c = codecIdNow n)
    (hmb : Gen.multiByte.contains c = Gen.multiByte.contains n) (chunk : Bool) (x : Bytes)
    (hne : ∀ id, codecNow n ≠ some (.external id)) :
    decodeNow o chunk c x = decodeNow o chunk n x := by
  unfold decodeNow
  rw [codecNow_congr h, hmb]
  cases hcn : codecNow n with
  | none => rfl
  | some cd =>
    cases cd with
    | table tbl => rfl
    | utf8 => rfl
    | utf16 le => rfl
    | external id => exact absurd hcn (hne id)

/-- for a supported name the codec is not restricted: all their codecs are modelled (`decodeNow_supported`) -/
theorem same_codec_same_decode_supported (o : Oracle) {c n : Name} (h : codecIdNow c = codecIdNow n)
    (hmb : Gen.multiByte.contains c = Gen.multiByte.contains n) (hn : n ∈ Gen.supported) (chunk : Bool) (x : Bytes) :
    decodeNow o chunk c x = decodeNow o chunk n x := by
  have hcodec := codecNow_congr h
  obtain ⟨hcn, h0⟩ | ⟨cd, f, hcn, hs, h1⟩ := decodeNow_supported hn
  · rw [h0, unresolvable_never_decodes o chunk (hcodec.trans hcn)]
  · rw [h1, decodeNow_strict (hcodec.trans hcn) hs, hmb]

/-- **C18 (aliases decode identically), every codec**: an alias of a reportable name that the canonicaliser accepts
    decodes, under its canonical name, every byte string – whole or as a chunk – exactly as the name itself -/
theorem C18_alias_decodes_identically (o : Oracle) {n a c : Name} {as : List Name} (h : n ∈ reportableNow)
    (has : lookupName Gen.aliases n = some as) (ha : a ∈ as) (hc : ianaNow a = some c) (chunk : Bool) (x : Bytes) :
    decodeNow o chunk c x = decodeNow o chunk n x := by
  obtain ⟨hid, hk⟩ := aliases_of h has ha hc
  exact same_codec_same_decode_supported o hid hk (reportable_supported h) chunk x

/-- T1 obligation: the dumped name of every mark is a supported name (sanity of the tables) -/
theorem marks_supported : (Gen.marks.all (fun em => Gen.supported.contains em.1)) = true := by decide +kernel

end Charset
