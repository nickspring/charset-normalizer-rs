/-
  C09 — restricting detection to one encoding does not change that encoding's verdict.
-/
import CharsetProof.Lemmas.Restrict
import CharsetProof.Lemmas.EntryFacts
import CharsetProof.Lemmas.SortPerm
import CharsetProof.Model.Concrete
import CharsetProof.Lemmas.Names
namespace Charset
variable {E L : Type} [DecidableEq E]

/-- the per-encoding verdict: what the probe of `e` alone (no earlier soft failures) returns.
    It reads the settings only through the window, the thresholds, the BOM and – for the fallback
    entry – the hint list; never the include/exclude lists (`ctxOf_incl_irrel` has it for the include list). -/
def verdictAlone (W : World E L) (T : Tables E) (b : Bytes) (s : Settings) (e : E) : M (Verdict E L) :=
  probe W T (ctxOf T b s) [] e

/-- **C09 (a)** — whenever an encoding appears in the unrestricted result for a non-empty input, as a match or as a
    listed alternative (candidate entry `x`), the run restricted to `x.enc` alone returns exactly one
    match, and that match *is* the entry: same chaos, coherence/language list, BOM flag, text, raw. -/
theorem C09_restricted_same_verdict {W : World E L} {T : Tables E} {sort : Sorter E L}
    (hperm : ∀ l, (sort l).Perm l) (hnd : T.supported.Nodup)
    {b : Bytes} {s : Settings} {incl excl : List E}
    (hincl : canonList T.ianaName s.incl = .ok incl) (hexcl : canonList T.ianaName s.excl = .ok excl)
    {ms : List (Match E L)} (hb : b ≠ []) (h : fromBytes W T sort b s = .ok (.ok ms))
    {m : Match E L} (hm : m ∈ ms) {x : Sub E L} (hx : x ∈ m.entries)
    {only : List Name} (honlyc : canonList T.ianaName only = .ok [x.enc]) :
    ∃ m0, m0.toSub = x ∧ m0.subs = [] ∧
      fromBytes W T sort b { s with incl := only } = .ok (.ok [m0]) := by
  -- every entry is the answer of the probe of its encoding run alone, which is all the restricted run consists of
  rcases fromBytes_probed hperm hincl hexcl hb h with hall | ⟨fb, rfl, hfb, _⟩
  · have f := Match.allEntries_iff.mp (hall m hm) x hx
    obtain ⟨m0, hp, h1, h2⟩ := f.probe
    exact ⟨m0, h1, h2, fromBytes_only hperm hnd f.supported honlyc hexcl (allowed_iff.mp f.allowed).2 hb (Or.inl hp)⟩
  · obtain rfl := List.mem_singleton.mp hm
    have f := Match.allEntries_iff.mp hfb x hx
    obtain ⟨m0, hp, h1, h2⟩ := f.probe
    exact ⟨m0, h1, h2, fromBytes_only hperm hnd f.supported honlyc hexcl (allowed_iff.mp f.allowed).2 hb (Or.inr hp)⟩

/-- **C09 (probe independence)** — an accepted or softly failed verdict reached after any earlier soft failures
    is the verdict of the probe run alone: the loop state enters a probe only through the similarity skip
    (`probe_alone` has it for every verdict but the skip) -/
theorem C09_probe_indep {W : World E L} {T : Tables E} {c : Ctx E} {soft : List E} {e : E} {v : Verdict E L}
    (h : probe W T c soft e = .ok v) (hv : (∃ m, v = .accepted m) ∨ (∃ fb, v = .softFail fb)) :
    probe W T c [] e = .ok v :=
  probe_alone h (by rintro f rfl; rcases hv with ⟨_, hv⟩ | ⟨_, hv⟩ <;> cases hv)

/-- the statement for every world over the current tables (it says nothing about the world) -/
theorem C09_restricted_tablesNow {W : World Name Name} {b : Bytes} {s : Settings} {incl excl : List Name}
    (hincl : canonList ianaNow s.incl = .ok incl) (hexcl : canonList ianaNow s.excl = .ok excl)
    {ms : List (Match Name Name)} (hb : b ≠ [])
    (h : fromBytes W tablesNow sortMatches b s = .ok (.ok ms))
    {m : Match Name Name} (hm : m ∈ ms) {x : Sub Name Name} (hx : x ∈ m.entries) :
    ∃ m0, m0.toSub = x ∧ m0.subs = [] ∧
      fromBytes W tablesNow sortMatches b { s with incl := [x.enc] } = .ok (.ok [m0]) := by
  apply C09_restricted_same_verdict sortMatches_perm supported_nodup_now hincl hexcl hb h hm hx
  -- a reported encoding is a supported one, and those are their own canonical names
  have hsup : x.enc ∈ Gen.supported := (fromBytes_entry_common sortMatches_perm hincl hexcl hb h hm hx).supported
  exact canonList_supported fun _ he => List.mem_singleton.mp he ▸ hsup

theorem C09_restricted_current (o : Oracle) {b : Bytes} {s : Settings} {incl excl : List Name}
    (hincl : canonList ianaNow s.incl = .ok incl) (hexcl : canonList ianaNow s.excl = .ok excl)
    {ms : List (Match Name Name)} (hb : b ≠ [])
    (h : fromBytes (worldNow o) tablesNow sortMatches b s = .ok (.ok ms))
    {m : Match Name Name} (hm : m ∈ ms) {x : Sub Name Name} (hx : x ∈ m.entries)
    (hsup : x.enc ∈ Gen.supported) :
    ∃ m0, m0.toSub = x ∧ m0.subs = [] ∧
      fromBytes (worldNow o) tablesNow sortMatches b { s with incl := [x.enc] } = .ok (.ok [m0]) :=
  C09_restricted_tablesNow hincl hexcl hb h hm hx

end Charset
