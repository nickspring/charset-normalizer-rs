/-
  C17 — decode helper equals the codec; chunk mode trims cut UTF-8 cleanly.

  The event model of the lossy decoders (`Ignore` / `Replace`) and the strict decoders are two
  descriptions of the same raw decoder (`C17_strict_is_codec`): in `Strict` mode the helper's result computed from the event stream
  is exactly the strict decoder's result, for UTF-8 (the crate's DFA), UTF-16, every single-byte table and the multi-byte
  legacy decoders; and whenever the strict decode succeeds, `Ignore` and `Replace` return the very same text.
-/
import CharsetProof.Lemmas.Trap
import CharsetProof.Lemmas.Utf8
import CharsetProof.Lemmas.ChunkRetry
import CharsetProof.Lemmas.CjkEvents
namespace Charset

/-- **C17 (test-only mode)** — the test-only writer changes no control flow: the helper succeeds in
    test-only mode exactly when the real decode succeeds, and materialises no text -/
theorem C17_test_only (c : Codec) (isMb : Bool) (trap : Trap) (isChunk : Bool) (input : Bytes) :
    (decodeHelper c isMb trap true isChunk input).map Option.isSome =
      (decodeHelper c isMb trap false isChunk input).map Option.isSome ∧
    ∀ t, decodeHelper c isMb trap true isChunk input = some (some t) → t = [] := by
  unfold decodeHelper
  cases c.events <;> cases c.strict <;> simp

/-- chunk mode is only different for `Strict` on multi-byte encodings (utils.rs:238-240) -/
theorem C17_chunk_mode_irrelevant (c : Codec) (trap : Trap) (onlyTest : Bool) (input : Bytes)
    (h : trap ≠ .strict) : decodeHelper c true trap onlyTest true input = decodeHelper c true trap onlyTest false input := by
  unfold decodeHelper
  cases c.events <;> cases c.strict <;> simp [h]

theorem C17_chunk_mode_single_byte (c : Codec) (trap : Trap) (onlyTest : Bool) (input : Bytes) :
    decodeHelper c false trap onlyTest true input = decodeHelper c false trap onlyTest false input := by
  unfold decodeHelper
  cases c.events <;> cases c.strict <;> simp

def toOpt {α ε : Type} : Except ε α → Option α
  | .ok a => some a
  | .error _ => none

theorem table_strict_events (tbl : List Nat) (b : Bytes) :
    applyTrap .strict (tableEvents tbl b) = toOpt (tableStrict tbl b) := by
  induction b with
  | nil => rfl
  | cons x xs ih =>
    simp only [tableEvents, tableStrict]
    cases tbl[x]? with
    | none => exact applyTrap_strict_cons_none _
    | some cp =>
      by_cases hu : cp = undefCp
      · simp only [hu, ↓reduceIte]; exact applyTrap_strict_cons_none _
      · simp only [hu, ↓reduceIte]
        rw [applyTrap_strict_cons_some, ih]
        cases tableStrict tbl xs <;> rfl

/-- `Ignore` never fails and returns exactly the decodable characters; `Replace` never fails and
    writes one U+FFFD per problem -/
theorem C17_ignore_replace_total (evs : List (Option Nat)) :
    applyTrap .ignore evs = some (evs.filterMap id) ∧
    applyTrap .replace evs = some (evs.map (fun e => e.getD 0xFFFD)) := ⟨rfl, rfl⟩

/-- **C17 (UTF-8 round trip)** — strict decoding of the UTF-8 encoding of any scalar-value text gives it back -/
theorem C17_utf8_roundtrip (t : Text) (hs : ∀ c ∈ t, isScalar c = true) : utf8Strict (utf8Encode t) = .ok t :=
  utf8_roundtrip t hs

/-- **C17 (chunk mode, all windows, all texts)** — a window cut at arbitrary byte positions out of valid
    UTF-8 (text `… c mid d …`): the last `len(c) - k` bytes of a character `c` cut at the front (`k ≥ 1`
    bytes missing; none of `c` when `k ≥ len(c)`), at least one complete character `mid`, and the
    first `j < len(d)` bytes of a character `d` cut at the end. Chunk-mode decoding returns exactly the
    complete characters inside the window: nothing dropped, duplicated or invented. Unbounded in the
    length of `mid` and in the characters involved (1–4 byte encodings). -/
theorem C17_utf8_window (c d : Nat) (mid : Text) (k j : Nat) (hd : isScalar d = true)
    (hmid : ∀ x ∈ mid, isScalar x = true) (hne : mid ≠ []) (hk : 1 ≤ k) (hj : j < (utf8EncodeChar d).length) :
    decodeStrict utf8Strict true true
      ((utf8EncodeChar c).drop k ++ utf8Encode mid ++ (utf8EncodeChar d).take j) = .ok mid := by
  have hTcont : ∀ b ∈ (utf8EncodeChar c).drop k, 0x80 ≤ b ∧ b ≤ 0xBF := by
    intro b hb
    rw [show k = 1 + (k - 1) by omega, ← List.drop_drop] at hb
    exact encodeChar_tail_cont c b (List.mem_of_mem_drop hb)
  have hHlen : ((utf8EncodeChar d).take j).length = j := by rw [List.length_take]; omega
  apply decodeStrict_window
  · have := (encodeChar_length c).2
    rw [List.length_drop]; omega
  · have := (encodeChar_length d).2
    omega
  · obtain ⟨x, xs, rfl⟩ := List.exists_cons_of_ne_nil hne
    rw [utf8Encode, List.flatMap_cons]
    exact List.append_ne_nil_of_left_ne_nil (List.ne_nil_of_length_pos (encodeChar_length x).1) _
  · -- from an offset inside the cut character the input starts with a continuation byte
    intro i hi
    rw [List.drop_eq_getElem_cons hi, List.cons_append, List.cons_append]
    have := hTcont _ (List.getElem_mem hi)
    rw [utf8Strict, utf8StrictAux, u8Step_cont_initial this.1 this.2]
  · -- `mid` followed by a cut character
    intro i hi1 hi2
    rw [List.take_take, Nat.min_eq_left (by omega)]
    rw [utf8_roundtrip_append mid hmid, utf8Strict, (encode_feeds hd).prefix_incomplete i (by omega) (by omega)]
  · exact utf8_roundtrip mid hmid

/-- the same through the helper model: `decode(window, "utf-8", Strict, false, is_chunk = true)` -/
theorem C17_helper_window (c d : Nat) (mid : Text) (k j : Nat) (hd : isScalar d = true)
    (hmid : ∀ x ∈ mid, isScalar x = true) (hne : mid ≠ []) (hk : 1 ≤ k) (hj : j < (utf8EncodeChar d).length) :
    decodeHelper .utf8 true .strict false true
      ((utf8EncodeChar c).drop k ++ utf8Encode mid ++ (utf8EncodeChar d).take j) = some (some mid) := by
  have h := C17_utf8_window c d mid k j hd hmid hne hk hj
  rw [decodeStrict_chunk] at h
  unfold decodeHelper
  simp only [Codec.events, Codec.strict, and_self, ↓reduceIte, Bool.false_eq_true]
  rw [h]
  rfl

/-- non-vacuity: a window of "aé€😀z" cut inside 'é' and inside '😀' -/
example : (decodeStrict utf8Strict true true ((utf8EncodeChar 0xE9).drop 1 ++ utf8Encode [0x20AC] ++ (utf8EncodeChar 0x1F600).take 2)).toOption
    = some [0x20AC] := by decide +kernel

/-- the retry loop starts every attempt from an empty buffer: a window whose inner slice decodes returns exactly
    that decode (nothing from failed attempts is kept). Evaluated on `b"h\xc3"` (the input on which the crate
    answered "hh" before its repair, `fix:` bda39a8) and on a window cut on both sides. -/
example : (decodeStrict utf8Strict true true [0x68, 0xC3]).toOption = some [0x68] := by decide +kernel
example : (decodeStrict utf8Strict true true [0xA9, 0x68, 0xC3, 0xA9, 0xE2, 0x82]).toOption = some [0x68, 0xE9] := by
  decide +kernel

theorem utf8_strict_events (fuel : Nat) (s : U8State) (b : Bytes) : b.length ≤ fuel →
    applyTrap .strict (utf8Events fuel s b) = toOpt (utf8StrictAux s b) := by
  -- along the cases of `utf8Events`: both sides take the same step of `u8Step`
  fun_induction utf8Events fuel s b with
  | case1 _ _ h => intro _; rw [utf8StrictAux, if_pos h]; rfl
  | case2 _ _ h => intro _; rw [utf8StrictAux, if_neg h]; rfl
  | case3 _ b hne =>
    -- out of fuel: the input is empty
    intro h
    exact absurd (List.eq_nil_of_length_eq_zero (Nat.le_zero.mp h)) hne
  | case4 fuel s b bs cp hstep ih =>
    -- a character is complete: both go on from the initial state
    intro h
    rw [utf8StrictAux, hstep, applyTrap_strict_cons_some, ih (Nat.le_of_succ_le_succ h)]
    cases utf8StrictAux {} bs <;> rfl
  | case5 fuel s b bs s' hstep ih =>
    intro h
    rw [utf8StrictAux, hstep]
    exact ih (Nat.le_of_succ_le_succ h)
  | case6 fuel s b bs hstep | case7 fuel s b bs hstep =>
    -- the strict decoder stops at the first reject, and a `none` event makes the strict trap fail
    intro _
    rw [utf8StrictAux, hstep, applyTrap_strict_cons_none]
    rfl

theorem utf16_strict_events (dangling : Bool) (us : List Nat) :
    applyTrap .strict (utf16EventsUnits dangling us) = toOpt (utf16FromUnits dangling us) := by
  -- along the cases of `utf16EventsUnits`, which are those of `utf16FromUnits`
  fun_induction utf16EventsUnits dangling us with
  | case1 h => rw [utf16FromUnits, if_pos h]; rfl
  | case2 h => rw [utf16FromUnits, if_neg h]; rfl
  | case3 u hhi => rw [utf16FromUnits, if_pos hhi]; rfl
  | case4 u hhi u2 us2 hlo ih =>
    -- a surrogate pair: one character, and both go on behind it
    rw [utf16FromUnits, if_pos hhi, if_pos hlo, applyTrap_strict_cons_some, ih]
    cases utf16FromUnits dangling us2 <;> rfl
  | case5 u hhi u2 us2 hlo =>
    rw [utf16FromUnits, if_pos hhi, if_neg hlo, applyTrap_strict_cons_none]
    rfl
  | case6 u us hhi hlo =>
    unfold utf16FromUnits
    rw [if_neg hhi, if_pos hlo, applyTrap_strict_cons_none]
    rfl
  | case7 u us hhi hlo ih =>
    unfold utf16FromUnits
    rw [if_neg hhi, if_neg hlo, applyTrap_strict_cons_some, ih]
    cases utf16FromUnits dangling us <;> rfl

/-- **C17 (strict mode of the helper = the codec)** for every modelled codec: the text the helper builds
    from the decoder's event stream under `DecoderTrap::Strict` is the strict decoder's own result
    (an error exactly when the codec errors) -/
theorem C17_strict_is_codec (c : Codec) (ev : Bytes → List (Option Nat)) (st : Bytes → Except ErrKind Text)
    (hev : c.events = some ev) (hst : c.strict = some st) (input : Bytes) :
    applyTrap .strict (ev input) = toOpt (st input) := by
  cases c with
  | table tbl =>
    cases hev; cases hst
    exact table_strict_events tbl input
  | utf8 =>
    cases hev; cases hst
    exact utf8_strict_events _ {} input (by omega)
  | utf16 le =>
    cases hev; cases hst
    exact utf16_strict_events _ _
  | external id =>
    rw [Cjk.eventsOf_strict hev hst]
    cases st input <;> rfl

/-- **C17 (lossy modes on clean input)**: if the strict decode of a modelled codec succeeds with text `t`,
    the helper in `Ignore` and in `Replace` mode returns `t` as well -/
theorem C17_lossy_equals_strict_on_clean_input (c : Codec) (ev : Bytes → List (Option Nat))
    (st : Bytes → Except ErrKind Text) (hev : c.events = some ev) (hst : c.strict = some st)
    (input : Bytes) (t : Text) (hok : st input = .ok t) :
    applyTrap .ignore (ev input) = some t ∧ applyTrap .replace (ev input) = some t := by
  apply applyTrap_agree
  rw [C17_strict_is_codec c ev st hev hst input, hok]
  rfl

end Charset
