/-
  C10 anchor 'coherence evaluated only against the encoding's target languages': the table of target
  languages dumped from the compiled crate (T1) equals what the Lean model of encoding_languages /
  mb_encoding_languages (Model/Targets.lean) computes – for every supported encoding, kernel-evaluated.
-/
import CharsetProof.Model.Targets
import CharsetProof.Lemmas.Indexed
namespace Charset

/-- `encodingUnicodeRange` with the positions 0x40..0xFE read as one segment of the table. The kernel walks the
    table once per index, so evaluating the model as written costs four times as much as all the rest of
    `targetLanguages_is_model`. -/
def encodingUnicodeRangeSeg (tbl : List Nat) : List Name :=
  let rs : List Name := ((tbl.drop 0x40).take (0xFF - 0x40)).filterMap (fun cp =>
    if cp = undefCp then none
    else (unicodeRangeOf Gen.unicodeRanges cp).filter (fun r => !rangeSecondary Gen.secondaryKeywords r))
  let total := rs.length
  let kept := (dedup rs).filter (fun r =>
    Fl.ge (Fl.div (Fl.ofNat fmt32 (rs.filter (· == r)).length) (Fl.ofNat fmt32 total)) (F32.lit 15 100))
  insertionSort nameLt kept

theorem encodingUnicodeRange_eq_seg (tbl : List Nat) : encodingUnicodeRange tbl = encodingUnicodeRangeSeg tbl := by
  unfold encodingUnicodeRange encodingUnicodeRangeSeg
  rw [← filterMap_range_getElem?]
  -- the two sides differ only in how the function under `filterMap` spells its `match`
  generalize hi : List.filterMap _ (List.range _) = byIndex
  generalize hs : List.filterMap _ (List.range _) = bySegment
  have : byIndex = bySegment := by
    rw [← hi, ← hs]
    congr 1
    funext k
    cases tbl[0x40 + k]? <;> rfl
  rw [this]

/-- the range test on `Bool`s: the kernel evaluates `Nat.ble a c && Nat.ble c b` in half the steps it needs to
    decide `a ≤ c ∧ c ≤ b`, and the 280-row scan is the inner loop of `targetLanguages_is_model` -/
theorem unicodeRangeOf_ble (tbl : List (Name × Nat × Nat)) (c : Nat) :
    unicodeRangeOf tbl c = (tbl.find? (fun r => Nat.ble r.2.1 c && Nat.ble c r.2.2)).map (·.1) := by
  simp only [unicodeRangeOf, Bool.decide_and, ← Nat.ble_eq, Bool.decide_eq_true]

/-! `unicode_range_languages(r)` asks of every alphabet character whether its range is `r`, and finding the range of a CJK
    character walks 120 rows of the table. As the ranges are disjoint, the question can be put to the rows named `r` alone,
    which the kernel finds once per `r`: a third of the evaluation of `targetLanguages_is_model`. -/

/-- the rows are intervals that follow one another, the first starting at or after `e` -/
def rangesFrom (e : Nat) : List (Name × Nat × Nat) → Bool
  | [] => true
  | x :: t => Nat.ble e x.2.1 && Nat.ble x.2.1 x.2.2 && rangesFrom (x.2.2 + 1) t

theorem rangesFrom_spec : ∀ {tbl : List (Name × Nat × Nat)} {e : Nat}, rangesFrom e tbl = true →
    (∀ x ∈ tbl, e ≤ x.2.1) ∧ tbl.Pairwise (fun x y => x.2.2 < y.2.1)
  | [], _, _ => ⟨by simp, List.Pairwise.nil⟩
  | x :: t, e, h => by
    simp only [rangesFrom, Bool.and_eq_true, Nat.ble_eq] at h
    obtain ⟨hlater, hp⟩ := rangesFrom_spec h.2
    refine ⟨fun z hz => ?_, List.pairwise_cons.mpr ⟨fun z hz => hlater z hz, hp⟩⟩
    rcases List.mem_cons.mp hz with rfl | hz
    · exact h.1.1
    · have := hlater z hz; omega

theorem unicodeRanges_sorted : rangesFrom 0 Gen.unicodeRanges = true := by decide +kernel

/-- in a table at most one of whose rows satisfies `p`, "the first row with `p` is named `r`" can be asked of the rows
    named `r` alone -/
theorem find_eq_named {β : Type} {tbl : List (Name × β)} {p : Name × β → Bool}
    (hp : tbl.Pairwise (fun x y => p x = true → p y = false)) {r : Name} (hr : r ≠ []) :
    (((tbl.find? p).map (·.1)).getD [] == r) = (tbl.filter (fun x => x.1 == r)).any p := by
  induction tbl with
  | nil => simpa using hr.symm
  | cons x xs ih =>
    obtain ⟨hx, hxs⟩ := List.pairwise_cons.mp hp
    rw [List.filter_cons]
    by_cases hin : p x = true
    · have hnone : (xs.filter (fun x => x.1 == r)).any p = false :=
        List.any_eq_false.mpr fun y hy => by simp [hx y (List.mem_filter.mp hy).1 hin]
      rw [List.find?_cons_of_pos hin]
      by_cases hn : (x.1 == r) = true
      · simp [hn, hin]
      · simp [hn, hnone]
    · rw [List.find?_cons_of_neg hin, ih hxs]
      by_cases hn : (x.1 == r) = true
      · simp [hn, hin]
      · simp [hn]

/-- `c` lies in the range named `r` (for the empty name, which no range has: `c` lies in no range) -/
def inRangeNamed (tbl : List (Name × Nat × Nat)) (r : Name) (c : Nat) : Bool :=
  if r = [] then (unicodeRangeOf tbl c).getD [] == r
  else (tbl.filter (fun x => x.1 == r)).any (fun x => Nat.ble x.2.1 c && Nat.ble c x.2.2)

theorem rangeOf_eq_named {tbl : List (Name × Nat × Nat)} (hs : rangesFrom 0 tbl = true) (r : Name) (c : Nat) :
    ((unicodeRangeOf tbl c).getD [] == r) = inRangeNamed tbl r c := by
  unfold inRangeNamed
  split
  · rfl
  · rw [unicodeRangeOf_ble]
    refine find_eq_named ((rangesFrom_spec hs).2.imp fun {x y} hxy hx => ?_) ‹_›
    simp only [Bool.and_eq_true, Nat.ble_eq, Bool.and_eq_false_imp] at hx ⊢
    omega

/-- tie T1 as a theorem: the dumped table of target languages is what the model of
    `encoding_languages` / `mb_encoding_languages` computes from the dumped decoding tables -/
theorem targetLanguages_is_model :
    (Gen.targetLanguages.all (fun p => targetLanguagesModel p.1 == some p.2)) = true := by
  simp only [targetLanguagesModel, encodingLanguages, encodingUnicodeRange_eq_seg, encodingUnicodeRangeSeg,
    unicodeRangeLanguages, rangeOf_eq_named unicodeRanges_sorted]
  -- in a pass of its own: in the same set it would rewrite the left side of `rangeOf_eq_named` away first, which then
  -- never fires (no error, and the evaluation takes twice as long)
  simp only [unicodeRangeOf_ble]
  decide +kernel
end Charset
