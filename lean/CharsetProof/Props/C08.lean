/-
  C08 — ranking: a candidate preferred over all others comes first.

  The documented pairwise rule is antisymmetric (`C08_preference_asymm`), so "preferred to every other match" alone (the
  property's wording) already makes a match the winner: no second condition is needed.
-/
import CharsetProof.Lemmas.SortWinner
import CharsetProof.Lemmas.SortPerm
import CharsetProof.Lemmas.Ranking
import CharsetProof.Lemmas.Container
import CharsetProof.Model.Concrete
import CharsetProof.Lemmas.CmpSwap
set_option linter.unusedSectionVars false
namespace Charset
variable {E L : Type}

/-- the documented pairwise rule (`Ord for CharsetMatch`, src/entity.rs:132-153), written out independently of `cmp`:
    chaos closer than one percentage point is a tie, broken first by coherence when it differs by more
    than two points (higher wins), then by multi-byte usage when it differs by more than `f32::EPSILON`
    (higher wins); in all remaining cases lower chaos wins. -/
def PreferredSpec (a b : Match E L) : Prop :=
  if Fl.lt (Fl.abs (Fl.sub a.chaos b.chaos)) (F32.lit 1 100) = true then
    if Fl.gt (Fl.abs (Fl.sub a.coherence b.coherence)) (F32.lit 2 100) = true then b.coherence.key < a.coherence.key
    else if Fl.gt (Fl.abs (Fl.sub a.mbu b.mbu)) F32.epsilon = true then b.mbu.key < a.mbu.key
    else a.chaos.key < b.chaos.key
  else a.chaos.key < b.chaos.key

/-- **C08 (e)**: `is_less` used by the container is exactly the documented rule -/
theorem C08_lt_iff_spec (a b : Match E L) : Match.lt a b = true ↔ PreferredSpec a b := by
  unfold Match.lt Match.cmp Match.cmpKey PreferredSpec Match.key
  simp only
  split
  · split
    · exact Fl.ocmp_lt_iff
    · split
      · exact Fl.ocmp_lt_iff
      · exact Fl.ocmp_lt_iff
  · exact Fl.ocmp_lt_iff

/-- **C08 (c)**: `get_best()` is the first element of the list -/
theorem C08_get_best (items : List (Match E L)) : getBest items = items.head? := rfl

/-- **C08 (a)**, every list length: if `w` is preferred to every other element under the pairwise
    rule, the container's sort puts it first -/
theorem C08_winner_first (l : List (Match E L)) (w : Match E L)
    (hw : w ∈ l) (hwin : Winner Match.lt w l) : (sortMatches l).head? = some w := by
  -- read on keys, once: unifying `Match.lt` with `fun a b => ?lt a.key b.key` at every use is slow to check
  have hwin : Winner (fun a b : Match E L => Match.ltKey a.key b.key) w l := hwin
  refine sortMatches_cases (P := (·.head? = some w)) (fun r hr hok => ?_) ?_
  · -- the std sort's result passed `rankingOk`: its first key is the winning key, and the winner is the only element with it
    have hk : winningKey (l.map Match.key) = some w.key :=
      find_dominant Match.ltKey (List.mem_map_of_mem hw) (hwin.map Match.ltKey Match.key)
    have hfirst := (rankingOk_iff.mp hok).1 _ hk
    rw [List.head?_map] at hfirst ⊢
    exact winner_of_key hwin hr (fun _ => List.mem_of_mem_head?) hfirst
  · have h := insertionSort_winner_first ltPair _ _ (ltKey_irrefl _) (List.mem_map_of_mem hw)
      (hwin.map ltPair fun m : Match E L => (m.key, m))
    rw [List.head?_map, h]
    rfl

/-- **C08 (b)**, every list length: an element every other one is preferred to comes last -/
theorem C08_loser_last (l : List (Match E L)) (z : Match E L)
    (hz : z ∈ l) (hlos : Loser Match.lt z l) : (sortMatches l).getLast? = some z := by
  have hwin : Winner (fun a b : Match E L => (fun x y => Match.ltKey y x) a.key b.key) z l := hlos
  refine sortMatches_cases (P := (·.getLast? = some z)) (fun r hr hok => ?_) ?_
  · have hk : losingKey (l.map Match.key) = some z.key :=
      find_dominant (fun x y => Match.ltKey y x) (List.mem_map_of_mem hz)
        (hwin.map (fun x y => Match.ltKey y x) Match.key)
    have hlast := (rankingOk_iff.mp hok).2 _ hk
    rw [List.getLast?_map] at hlast ⊢
    exact winner_of_key (lt := fun x y => Match.ltKey y x) hwin hr (fun _ => List.mem_of_mem_getLast?) hlast
  · have h := insertionSort_loser_last ltPair _ _ (List.mem_map_of_mem hz)
      (hwin.map (fun a b => ltPair b a) fun m : Match E L => (m.key, m))
    rw [List.getLast?_map, h]
    rfl

theorem C08_winner_first_small (l : List (Match E L)) (w : Match E L) (_hlen : l.length ≤ 20)
    (hw : w ∈ l) (hwin : Winner Match.lt w l) : (sortMatches l).head? = some w :=
  C08_winner_first l w hw hwin

theorem C08_loser_last_small (l : List (Match E L)) (z : Match E L) (_hlen : l.length ≤ 20)
    (hz : z ∈ l) (hlos : Loser Match.lt z l) : (sortMatches l).getLast? = some z :=
  C08_loser_last l z hz hlos

/-- **C08 (d)**: `append` of an item that is not merged pushes it and re-sorts the whole list (src/entity.rs:339-340) -/
theorem C08_append_resorts (tooBig : Nat) (items : List (Match E L)) (item : Match E L)
    (hnomerge : (if item.raw.length ≤ tooBig then mergeInto item items else none) = none) :
    append sortMatches tooBig items item = sortMatches (items ++ [item]) := by
  unfold append; rw [hnomerge]

/-- **C08 (d)**: hence a winner of the pushed list is first and `get_best()` returns it (every length) -/
theorem C08_append_winner (tooBig : Nat) (items : List (Match E L)) (item w : Match E L)
    (hnomerge : (if item.raw.length ≤ tooBig then mergeInto item items else none) = none)
    (hw : w ∈ items ++ [item]) (hwin : Winner Match.lt w (items ++ [item])) :
    getBest (append sortMatches tooBig items item) = some w := by
  rw [C08_append_resorts tooBig items item hnomerge, C08_get_best]
  exact C08_winner_first _ w hw hwin

/-- `CharsetMatches::new(Some(items))` -/
theorem C08_new_winner (items : List (Match E L)) (w : Match E L)
    (hw : w ∈ items) (hwin : Winner Match.lt w items) :
    getBest (newContainer sortMatches items) = some w :=
  C08_winner_first items w hw hwin

/-- the merging branch of `append` returns without a re-sort (src/entity.rs:334-335): nothing the order depends on changes -/
theorem mergeInto_keys {item : Match E L} {items items' : List (Match E L)}
    (h : mergeInto item items = some items') : items'.map Match.key = items.map Match.key := by
  obtain ⟨pre, m, post, rfl, _, _, rfl⟩ := mergeInto_some h
  have hkey : Match.key { m with subs := m.subs ++ [item.toSub] } = m.key := rfl
  simp [hkey]

/-- non-vacuity: a concrete list with a winner under the float model (chaos 0.05 vs 0.5) -/
example :
    let a : Match Nat Nat := ⟨[1], 0, F32.lit 1 20, [], false, [], some [1]⟩
    let b : Match Nat Nat := ⟨[1], 1, F32.lit 1 2, [], false, [], some [1]⟩
    Match.lt a b = true ∧ Match.lt b a = false ∧ (sortMatches [b, a]).head? = some a := by
  decide +kernel

variable [DecidableEq E]

/-- **C08**: the pairwise rule is antisymmetric, for all keys, finite or not (`Fl.abs_sub_comm`: |x - y| = |y - x| in the float model) -/
theorem C08_preference_asymm (a b : Match E L) (h : Match.lt a b = true) : Match.lt b a = false :=
  ltKey_asymm a.key b.key h

/-- the property's wording: `w` is preferred to every other match -/
def PreferredToAll (w : Match E L) (l : List (Match E L)) : Prop := ∀ y ∈ l, y ≠ w → Match.lt w y = true

/-- **C08, as worded**: a match preferred to every other one is the first element (every list length) -/
theorem C08_preferred_to_all_first (l : List (Match E L)) (w : Match E L) (hw : w ∈ l)
    (h : PreferredToAll w l) : (sortMatches l).head? = some w :=
  C08_winner_first l w hw (fun y hy hne => ⟨h y hy hne, C08_preference_asymm w y (h y hy hne)⟩)

/-- symmetrically: a match every other one is preferred to is last -/
theorem C08_all_preferred_to_last (l : List (Match E L)) (z : Match E L) (hz : z ∈ l)
    (h : ∀ y ∈ l, y ≠ z → Match.lt y z = true) : (sortMatches l).getLast? = some z :=
  C08_loser_last l z hz (fun y hy hne => ⟨h y hy hne, C08_preference_asymm y z (h y hy hne)⟩)

/-- the preference is *not* transitive (which is why the property speaks of a match preferred to all others and
    not of "the minimum"): three keys with chaos 0 %, 0.6 %, 1.2 % and coherences that cross the two-point band -/
example :
    let k1 : Match.Key := ⟨F32.lit 0 1000, F32.lit 50 100, F32.lit 0 1⟩
    let k2 : Match.Key := ⟨F32.lit 6 1000, F32.lit 60 100, F32.lit 0 1⟩
    let k3 : Match.Key := ⟨F32.lit 12 1000, F32.lit 70 100, F32.lit 0 1⟩
    Match.ltKey k2 k1 = true ∧ Match.ltKey k3 k2 = true ∧ Match.ltKey k1 k3 = true := by decide +kernel

end Charset
