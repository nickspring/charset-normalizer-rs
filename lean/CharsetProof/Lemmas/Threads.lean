/-
  What the two interleaving models (`Model/Conc.lean`, `Model/ConcNested.lean`) share: a system is a list of
  threads of which one is replaced per step (`List.set`), and a table of mutexes that must keep naming, for every
  mutex, the one thread that is inside the critical section guarded by it.
-/
namespace Charset

theorem forall_getElem?_set {α} {P : α → Prop} {l : List α} {i : Nat} {a : α}
    (h : ∀ (j : Nat) (t : α), l[j]? = some t → P t) (ha : P a) :
    ∀ (j : Nat) (t : α), (l.set i a)[j]? = some t → P t := by
  intro j t ht
  rcases List.mem_or_eq_of_mem_set (List.mem_of_getElem? ht) with hm | rfl
  · obtain ⟨k, hk⟩ := List.getElem?_of_mem hm
    exact h k t hk
  · exact ha

theorem map_set_eq {α β : Type} (g : α → β) {l : List α} {i : Nat} {t t' : α} (hi : l[i]? = some t)
    (h : g t' = g t) : (l.set i t').map g = l.map g := by
  obtain ⟨hlt, rfl⟩ := List.getElem?_eq_some_iff.mp hi
  have : g l[i] = (l.map g)[i]'(by simpa using hlt) := by simp
  rw [List.map_set, h, this, List.set_getElem_self]

theorem sum_map_set_lt {α} (r : α → Nat) {l : List α} {i : Nat} {t t' : α} (hi : l[i]? = some t) (h : r t' < r t) :
    ((l.set i t').map r).sum < (l.map r).sum := by
  induction l generalizing i with
  | nil => cases hi
  | cons x xs ih =>
    cases i with
    | zero =>
      simp only [List.getElem?_cons_zero, Option.some.injEq] at hi
      subst hi
      simp only [List.set_cons_zero, List.map_cons, List.sum_cons]; omega
    | succ n =>
      have := ih (i := n) (by simpa using hi)
      simp only [List.set_cons_succ, List.map_cons, List.sum_cons]; omega

/-- `locks c = some i` exactly when thread `i` is inside the critical section of mutex `c` (`held t c`) -/
structure Owned {α C : Type} (held : α → C → Prop) (locks : C → Option Nat) (threads : List α) : Prop where
  holder : ∀ (c : C) (i : Nat), locks c = some i → ∃ t, threads[i]? = some t ∧ held t c
  excl : ∀ (i : Nat) (t : α) (c : C), threads[i]? = some t → held t c → locks c = some i

/-- Thread `i` moves from `t` to `t'`.  The table stays right if it follows the thread: a mutex is `i`'s iff `t'`
    is inside its critical section (entered only from a free mutex), it is freed iff `i` has left its section,
    and it is untouched otherwise.  Acquire, release and every step in between are instances. -/
theorem Owned.set {α C : Type} {held : α → C → Prop} [∀ t c, Decidable (held t c)] {locks locks' : C → Option Nat}
    {threads : List α} {i : Nat} {t t' : α} (h : Owned held locks threads) (hi : threads[i]? = some t)
    (hl : ∀ c, locks' c = if held t' c then some i else if held t c then none else locks c)
    (hfree : ∀ c, held t' c → held t c ∨ locks c = none) : Owned held locks' (threads.set i t') := by
  have hilt : i < threads.length := (List.getElem?_eq_some_iff.mp hi).1
  constructor
  · intro c j hj
    rw [hl] at hj
    split at hj
    · cases hj; exact ⟨t', List.getElem?_set_self hilt, ‹_›⟩
    · split at hj
      · cases hj
      · obtain ⟨x, hx, hh⟩ := h.holder c j hj
        have hji : j ≠ i := by rintro rfl; rw [hi] at hx; cases hx; contradiction
        exact ⟨x, by rw [List.getElem?_set_ne hji.symm]; exact hx, hh⟩
  · intro j x c hx hh
    by_cases hji : j = i
    · subst hji
      rw [List.getElem?_set_self hilt] at hx
      cases hx
      rw [hl, if_pos hh]
    · -- another thread is inside `c`'s section: the mutex is its own, so neither free nor `i`'s
      rw [List.getElem?_set_ne (Ne.symm hji)] at hx
      have hj := h.excl j x c hx hh
      have hni : ¬held t c := fun hm => hji (Option.some.inj (hj.symm.trans (h.excl i t c hi hm)))
      have hn' : ¬held t' c := fun hm => by
        rcases hfree c hm with h1 | h1
        · exact hni h1
        · rw [h1] at hj; cases hj
      rw [hl, if_neg hn', if_neg hni]; exact hj

end Charset
