/-
  The lossy event streams of the multi-byte decoders (Model/Cjk.lean) agree with their strict decoders: no problem
  trapped ⇔ the strict decode succeeds, and then the characters are the same.
-/
import CharsetProof.Lemmas.CjkMachine
import CharsetProof.Lemmas.Trap
namespace Charset
namespace Cjk

/-- every step consumes the byte it is given (and possibly more) -/
def StepCons {σ : Type} (step : Step σ) : Prop :=
  ∀ s b rest cs s' rest', step s b rest = .ok (cs, s', rest') → rest'.length ≤ rest.length

theorem events_strict {σ : Type} (step : Step σ) (einfo : ErrInfo σ) (fin : σ → Nat → Bytes → Nat) (s0 : σ)
    (hc : StepCons step) :
    ∀ (f1 f2 : Nat) (s : σ) (x : Bytes), x.length < f1 → x.length < f2 →
      applyTrap .strict (events step einfo fin s0 f2 s x) =
        (match run step f1 s x with | .ok t => some t | .error _ => none) := by
  intro f1
  induction f1 with
  | zero => intro f2 s x h1; omega
  | succ f1 ih =>
    intro f2 s x h1 h2
    cases f2 with
    | zero => omega
    | succ f2 =>
      cases x with
      | nil => simp [events, run, applyTrap]
      | cons b rest =>
        simp only [events, run]
        cases hst : step s b rest with
        | error k =>
          cases k <;> simp only [applyTrap_strict_cons_none]
        | ok r =>
          obtain ⟨cs, s', rest'⟩ := r
          simp only
          have hlen := hc s b rest cs s' rest' hst
          simp only [List.length_cons] at h1 h2
          rw [applyTrap_strict_append_somes, ih f2 s' rest' (by omega) (by omega)]
          cases run step f1 s' rest' <;> simp

theorem Machine.events_strict (m : Machine) (x : Bytes) :
    applyTrap .strict (m.events x) = (match m.strict x with | .ok t => some t | .error _ => none) := by
  have hc : StepCons m.step := fun _ _ _ _ _ _ h => (m.good.of_ok h).1
  unfold Machine.events Machine.strict eventsWith decodeWith
  exact Cjk.events_strict _ _ _ _ hc _ _ m.s0 x (by omega) (by omega)

theorem eventsOf_strict {id : Name} {ev : Bytes → List (Option Nat)} {st : Bytes → Except ErrKind Text}
    (he : eventsOf id = some ev) (hs : strictOf id = some st) (x : Bytes) :
    applyTrap .strict (ev x) = (match st x with | .ok t => some t | .error _ => none) := by
  obtain ⟨m, hm, rfl⟩ := strictOf_machine hs
  rw [eventsOf_eq, hm] at he
  cases he
  exact m.events_strict x

end Cjk
end Charset
