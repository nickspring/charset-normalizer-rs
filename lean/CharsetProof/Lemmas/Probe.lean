import CharsetProof.Model.Detect
set_option linter.unusedSectionVars false
namespace Charset
variable {E L : Type} [DecidableEq E]

theorem sliceF_ok {site : Nat} {b sl : List Nat} {i j : Nat} (h : sliceF site b i j = .ok sl) :
    i ≤ j ∧ j ≤ b.length ∧ sl = (b.drop i).take (j - i) := by
  unfold sliceF at h
  split at h
  · rename_i hc; cases h; exact ⟨hc.1, hc.2, rfl⟩
  · cases h

theorem sliceF_to_end {site : Nat} {b sl : List Nat} {i : Nat} (h : sliceF site b i b.length = .ok sl) :
    sl = b.drop i ∧ i ≤ b.length := by
  obtain ⟨h1, _, rfl⟩ := sliceF_ok h
  exact ⟨List.take_of_length_le (by simp), h1⟩

theorem sliceF_total {site : Nat} {b : List Nat} {i j : Nat} (h1 : i ≤ j) (h2 : j ≤ b.length) :
    ∃ sl, sliceF site b i j = .ok sl := by
  unfold sliceF; rw [if_pos ⟨h1, h2⟩]; exact ⟨_, rfl⟩

theorem sliceF_length {site : Nat} {b sl : List Nat} {i j : Nat} (h : sliceF site b i j = .ok sl) :
    sl.length ≤ b.length := by
  obtain ⟨_, _, rfl⟩ := sliceF_ok h
  simp only [List.length_take, List.length_drop]
  omega

theorem sigOf_some {marks : List (E × Bytes)} {b : Bytes} {e : E} {mk : Bytes}
    (h : sigOf marks b = some (e, mk)) : (e, mk) ∈ marks ∧ mk.isPrefixOf b = true := by
  unfold sigOf at h
  exact ⟨List.mem_of_find?_eq_some h, by simpa [startsWith] using List.find?_some h⟩

theorem sigOf_ne_of_single_byte {T : Tables E} (hmb : ∀ em ∈ T.marks, T.isMultiByte em.1 = true) {b mk : Bytes} {e : E}
    (he : T.isMultiByte e = false) : sigOf T.marks b ≠ some (e, mk) := by
  intro h
  have : T.isMultiByte e = true := hmb _ (sigOf_some h).1
  rw [he] at this; cases this

theorem bomHereOf_iff {c : Ctx E} {e : E} : bomHereOf c e = true ↔ ∃ mk, c.sig = some (e, mk) := by
  unfold bomHereOf
  cases c.sig with
  | none => simp
  | some p => obtain ⟨e', mk⟩ := p; simp

theorem ctxOf_b (T : Tables E) (b : Bytes) (s : Settings) : (ctxOf T b s).b = b := rfl

theorem ctxOf_thr (T : Tables E) (b : Bytes) (s : Settings) : (ctxOf T b s).thr = s.thr := rfl

theorem ctxOf_incl_irrel (T : Tables E) (b : Bytes) (s : Settings) (incl' : List Name) :
    ctxOf T b { s with incl := incl' } = ctxOf T b s := rfl

theorem bomHere_iff {T : Tables E} {b : Bytes} {s : Settings} {e : E} :
    bomHereOf (ctxOf T b s) e = true ↔ ∃ mk, sigOf T.marks b = some (e, mk) :=
  bomHereOf_iff

theorem bomHereOf_ctxOf_false {T : Tables E} (hmb : ∀ em ∈ T.marks, T.isMultiByte em.1 = true) {b : Bytes} {s : Settings}
    {e : E} (he : T.isMultiByte e = false) : bomHereOf (ctxOf T b s) e = false := by
  refine Bool.eq_false_iff.mpr fun hbh => ?_
  obtain ⟨mk, hmk⟩ := bomHere_iff.mp hbh
  exact sigOf_ne_of_single_byte hmb he hmk

theorem needsBomCond_eq_false_iff {T : Tables E} {c : Ctx E} {e : E} :
    needsBomCond T c e = false ↔ bomHereOf c e = true ∨ (e ≠ T.utf16le ∧ e ≠ T.utf16be) := by
  cases h : bomHereOf c e <;> simp [needsBomCond, h]

theorem lazyOf_ctxOf_iff {T : Tables E} {b : Bytes} {s : Settings} {e : E} :
    lazyOf T (ctxOf T b s) e = true ↔ T.tooBig < b.length ∧ T.isMultiByte e = false := by
  simp [lazyOf, ctxOf]

/-- inputs up to `TOO_BIG_SEQUENCE` and multi-byte encodings are decoded in full -/
theorem lazyOf_ctxOf_false {T : Tables E} {b : Bytes} {s : Settings} {e : E}
    (h : b.length ≤ T.tooBig ∨ T.isMultiByte e = true) : lazyOf T (ctxOf T b s) e = false :=
  Bool.eq_false_iff.mpr fun hl => by
    obtain ⟨h1, h2⟩ := lazyOf_ctxOf_iff.mp hl
    rcases h with h | h
    · omega
    · rw [h2] at h; cases h

theorem startIdxOf_eq_zero {c : Ctx E} {e : E} (h : bomHereOf c e = false) : startIdxOf c e = 0 := by
  rw [startIdxOf, h]; rfl

theorem startIdx_of_sig {T : Tables E} {b : Bytes} {s : Settings} {e : E} {mk : Bytes}
    (h : sigOf T.marks b = some (e, mk)) : startIdxOf (ctxOf T b s) e = mk.length := by
  have hb : bomHereOf (ctxOf T b s) e = true := bomHere_iff.mpr ⟨mk, h⟩
  unfold startIdxOf
  rw [if_pos hb]
  simp [ctxOf, h]

theorem canonList_eq (iana : Name → Option E) (l : List Name) :
    canonList iana l = match l.find? (fun n => (iana n).isNone) with
      | some n => .error n
      | none => .ok (l.filterMap iana) := by
  induction l with
  | nil => rfl
  | cons a as ih =>
    cases ha : iana a with
    | none => simp [canonList, ha]
    | some e =>
      simp only [canonList, ha, ih, List.find?_cons, Option.isNone_some, List.filterMap_cons]
      cases as.find? _ <;> rfl

theorem canonList_error {iana : Name → Option E} {l : List Name} {n : Name}
    (h : canonList iana l = .error n) : n ∈ l ∧ iana n = none := by
  rw [canonList_eq] at h
  split at h
  · next hf => cases h; exact ⟨List.mem_of_find?_eq_some hf, by simpa using List.find?_some hf⟩
  · cases h

theorem canonList_fixed {iana : Name → Option Name} {es : List Name} (hfix : ∀ e ∈ es, iana e = some e) :
    canonList iana es = .ok es := by
  induction es with
  | nil => rfl
  | cons a as ih =>
    simp only [canonList, hfix a (by simp), ih fun e he => hfix e (by simp [he])]

theorem payloadOf_of_not_lazy {T : Tables E} {c : Ctx E} {e : E} (hl : lazyOf T c e = false) {t0 : Text} :
    payloadOf T c e t0 = some t0 := by
  simp [payloadOf, hl]

theorem payloadOf_of_lazy {T : Tables E} {c : Ctx E} {e : E} (hl : lazyOf T c e = true) {t0 : Text} :
    payloadOf T c e t0 = none := by
  simp [payloadOf, hl]

theorem stripFeff_of_head {t : Text} (h : t.head? ≠ some 0xFEFF) : stripFeff t = t := by
  unfold stripFeff
  split
  · simp at h
  · rfl

theorem mkMatch_ok {W : World E L} {b : Bytes} {e : E} {chaos : F32} {bom : Bool}
    {cohs : List (L × F32)} {payload : Option Text} {m : Match E L}
    (h : mkMatch W b e chaos bom cohs payload = .ok m) :
    m.raw = b ∧ m.enc = e ∧ m.chaos = chaos ∧ m.bom = bom ∧ m.cohs = cohs ∧ m.subs = [] ∧
    (∀ t, payload = some t → m.text = some t) ∧
    (payload = none → ∃ r, W.decodeChunk e b = .ok r ∧ m.text = r.map stripFeff) := by
  unfold mkMatch at h
  split at h
  · cases h; simp
  · split at h
    · cases h
    · cases h; simp_all

/-- how stage 1 reaches each of its answers -/
inductive PrepareShape (W : World E L) (T : Tables E) (c : Ctx E) (soft : List E) (e : E) : Stage1 E → Prop
  | needsBom : needsBomCond T c e = true → PrepareShape W T c soft e .needsBom
  | hardFail (sl) : needsBomCond T c e = false → sliceF 341 c.b (startIdxOf c e) (endIdxOf T c e) = .ok sl →
      W.decode e sl = .ok none → PrepareShape W T c soft e .hardFail
  | similarSkip (sl t0 f) : needsBomCond T c e = false →
      sliceF 341 c.b (startIdxOf c e) (endIdxOf T c e) = .ok sl → W.decode e sl = .ok (some t0) →
      soft.find? (fun f => T.similar e f) = some f → PrepareShape W T c soft e (.similarSkip f)
  | go (sl t0) : needsBomCond T c e = false →
      sliceF 341 c.b (startIdxOf c e) (endIdxOf T c e) = .ok sl → W.decode e sl = .ok (some t0) →
      soft.find? (fun f => T.similar e f) = none →
      PrepareShape W T c soft e (.go { bomHere := bomHereOf c e, startIdx := startIdxOf c e, lazy := lazyOf T c e,
                                       payload := payloadOf T c e t0 })

theorem probePrepare_shape {W : World E L} {T : Tables E} {c : Ctx E} {soft : List E} {e : E} {r : Stage1 E}
    (h : probePrepare W T c soft e = .ok r) : PrepareShape W T c soft e r := by
  revert h
  fun_cases probePrepare W T c soft e with
  | case1 hb => rintro ⟨⟩; exact .needsBom hb
  | case2 | case3 => nofun
  | case4 hb sl hsl hd => rintro ⟨⟩; exact .hardFail sl (by simpa using hb) hsl hd
  | case5 hb sl hsl t0 ht0 f hfind => rintro ⟨⟩; exact .similarSkip sl t0 f (by simpa using hb) hsl ht0 hfind
  | case6 hb sl hsl t0 ht0 hfind => rintro ⟨⟩; exact .go sl t0 (by simpa using hb) hsl ht0 hfind

/-- what stage 1 has established when it lets the probe go on with `p` -/
structure PrepareGo (W : World E L) (T : Tables E) (c : Ctx E) (e : E) (p : Prepared) : Prop where
  bomHere : p.bomHere = bomHereOf c e
  startIdx : p.startIdx = startIdxOf c e
  lazy : p.lazy = lazyOf T c e
  needsBom : needsBomCond T c e = false
  decoded : ∃ sl t0, sliceF 341 c.b (startIdxOf c e) (endIdxOf T c e) = .ok sl ∧
    W.decode e sl = .ok (some t0) ∧ p.payload = payloadOf T c e t0

theorem probePrepare_go {W : World E L} {T : Tables E} {c : Ctx E} {soft : List E} {e : E} {p : Prepared}
    (h : probePrepare W T c soft e = .ok (.go p)) : PrepareGo W T c e p := by
  cases probePrepare_shape h with
  | go sl t0 hb hsl ht0 _ => exact ⟨rfl, rfl, rfl, hb, sl, t0, hsl, ht0, rfl⟩

/-- the soft-failure list enters stage 1 (hence the probe) only through the similarity skip, taken after everything else
    in stage 1 has succeeded -/
theorem probePrepare_soft (W : World E L) (T : Tables E) (c : Ctx E) (soft : List E) (e : E) :
    probePrepare W T c soft e =
      match probePrepare W T c [] e, soft.find? (fun f => T.similar e f) with
      | .ok (.go _), some f => .ok (.similarSkip f)
      | r, _ => r := by
  unfold probePrepare
  split
  · rfl
  · cases hsl : sliceF 341 c.b (startIdxOf c e) (endIdxOf T c e) with
    | error s => rfl
    | ok sl =>
      simp only
      cases hd : W.decode e sl with
      | error s => rfl
      | ok r => cases r <;> cases soft.find? (fun f => T.similar e f) <;> rfl

theorem probeSoft_ok {W : World E L} {c : Ctx E} {e : E} {p : Prepared} {acc : ChunkAcc} {v : Verdict E L}
    (h : probeSoft W c e p acc = .ok v) :
    (v = .softFail none ∧ fallbackCond c e acc = false) ∨
    (∃ fb, v = .softFail (some fb) ∧ fallbackCond c e acc = true ∧
      mkMatch W c.b e c.thr false [] p.payload = .ok fb) := by
  revert h
  fun_cases probeSoft W c e p acc with
  | case1 => nofun
  | case2 hc fb hfb => rintro ⟨⟩; exact Or.inr ⟨fb, rfl, hc, hfb⟩
  | case3 hc => rintro ⟨⟩; exact Or.inl ⟨rfl, by simpa using hc⟩

theorem cdsOf_ok {W : World E L} {T : Tables E} {c : Ctx E} {e : E} {acc : ChunkAcc} {cdl : List (List (L × F32))}
    (h : cdsOf W T c e acc = .ok cdl) :
    (e = T.ascii ∧ cdl = []) ∨
    (e ≠ T.ascii ∧ ∃ langs, W.target e = .ok langs ∧ cohAll W c.langThr langs acc.chunks = .ok cdl) := by
  revert h
  fun_cases cdsOf W T c e acc with
  | case1 he => rintro ⟨⟩; exact Or.inl ⟨he, rfl⟩
  | case2 => nofun
  | case3 he langs htar => intro h; exact Or.inr ⟨he, langs, htar, h⟩

theorem cohAll_ok {W : World E L} {thr : F32} {langs : List L} {ts : List Text} {rs : List (List (L × F32))}
    (h : cohAll W thr langs ts = .ok rs) :
    rs.length ≤ ts.length ∧ ∀ r ∈ rs, ∃ t, W.coh t thr langs = .ok (some r) := by
  fun_induction cohAll W thr langs ts generalizing rs with
  | case1 => cases h; simp
  | case2 | case3 => cases h
  | case4 t ts o ho rs0 hrs0 ih =>
    cases h
    obtain ⟨hlen, hmem⟩ := ih hrs0
    cases o with
    | none => exact ⟨Nat.le_succ_of_le hlen, hmem⟩
    | some x => exact ⟨Nat.succ_le_succ hlen, List.forall_mem_cons.mpr ⟨⟨t, ho⟩, hmem⟩⟩

theorem probeAccept_ok {W : World E L} {T : Tables E} {c : Ctx E} {e : E} {p : Prepared} {acc : ChunkAcc}
    {v : Verdict E L} (h : probeAccept W T c e p acc = .ok v) :
    ∃ m cdl merged, v = .accepted m ∧ cdsOf W T c e acc = .ok cdl ∧ W.merge cdl = .ok merged ∧
      mkMatch W c.b e (meanRatio acc.ratios) p.bomHere merged p.payload = .ok m := by
  revert h
  fun_cases probeAccept W T c e p acc with
  | case1 | case2 | case3 => nofun
  | case4 cdl hcdl merged hmerged m hm => rintro ⟨⟩; exact ⟨m, cdl, merged, rfl, hcdl, hmerged, hm⟩

/-- how the probe reaches each of its verdicts -/
inductive ProbeShape (W : World E L) (T : Tables E) (c : Ctx E) (soft : List E) (e : E) : Verdict E L → Prop
  | needsBom : probePrepare W T c soft e = .ok .needsBom → ProbeShape W T c soft e .needsBom
  | undecodable : probePrepare W T c soft e = .ok .hardFail → ProbeShape W T c soft e .hardFail
  | similarSkip (f) : probePrepare W T c soft e = .ok (.similarSkip f) → ProbeShape W T c soft e (.similarSkip f)
  | remainder (p acc) :
      probePrepare W T c soft e = .ok (.go p) → probeChunks W T c e p = .ok acc →
      probeRemainder W T c e p acc = .ok true → ProbeShape W T c soft e .hardFail
  | soft (p acc) :
      probePrepare W T c soft e = .ok (.go p) → probeChunks W T c e p = .ok acc →
      probeRemainder W T c e p acc = .ok false → softFailCond c acc = true →
      fallbackCond c e acc = false → ProbeShape W T c soft e (.softFail none)
  | fallback (p acc fb) :
      probePrepare W T c soft e = .ok (.go p) → probeChunks W T c e p = .ok acc →
      probeRemainder W T c e p acc = .ok false → softFailCond c acc = true →
      fallbackCond c e acc = true → mkMatch W c.b e c.thr false [] p.payload = .ok fb →
      ProbeShape W T c soft e (.softFail (some fb))
  | accepted (p acc cdl merged m) :
      probePrepare W T c soft e = .ok (.go p) → probeChunks W T c e p = .ok acc →
      probeRemainder W T c e p acc = .ok false → softFailCond c acc = false →
      cdsOf W T c e acc = .ok cdl → W.merge cdl = .ok merged →
      mkMatch W c.b e (meanRatio acc.ratios) p.bomHere merged p.payload = .ok m → ProbeShape W T c soft e (.accepted m)

theorem probe_shape {W : World E L} {T : Tables E} {c : Ctx E} {soft : List E} {e : E} {v : Verdict E L}
    (h : probe W T c soft e = .ok v) : ProbeShape W T c soft e v := by
  revert h
  fun_cases probe W T c soft e with
  | case1 | case5 | case6 => nofun
  | case2 hp => rintro ⟨⟩; exact .needsBom hp
  | case3 hp => rintro ⟨⟩; exact .undecodable hp
  | case4 f hp => rintro ⟨⟩; exact .similarSkip f hp
  | case7 p hp acc hacc hrem => rintro ⟨⟩; exact .remainder p acc hp hacc hrem
  | case8 p hp acc hacc hrem hsf =>
    intro h
    rcases probeSoft_ok h with ⟨rfl, hc⟩ | ⟨fb, rfl, hc, hm⟩
    · exact .soft p acc hp hacc hrem hsf hc
    · exact .fallback p acc fb hp hacc hrem hsf hc hm
  | case9 p hp acc hacc hrem hsf =>
    intro h
    obtain ⟨m, cdl, merged, rfl, hcds, hmerge, hm⟩ := probeAccept_ok h
    exact .accepted p acc cdl merged m hp hacc hrem (by simpa using hsf) hcds hmerge hm

theorem probe_soft (W : World E L) (T : Tables E) (c : Ctx E) (soft : List E) (e : E) :
    probe W T c soft e =
      match probePrepare W T c [] e, soft.find? (fun f => T.similar e f) with
      | .ok (.go _), some f => .ok (.similarSkip f)
      | _, _ => probe W T c [] e := by
  unfold probe
  rw [probePrepare_soft]
  cases probePrepare W T c [] e with
  | error s => rfl
  | ok r => cases r <;> cases soft.find? (fun f => T.similar e f) <;> rfl

theorem probe_alone {W : World E L} {T : Tables E} {c : Ctx E} {soft : List E} {e : E} {v : Verdict E L}
    (h : probe W T c soft e = .ok v) (hns : ∀ f, v ≠ .similarSkip f) : probe W T c [] e = .ok v := by
  rw [probe_soft] at h
  split at h
  · cases h; exact absurd rfl (hns _)
  · exact h

theorem probe_similarSkip {W : World E L} {T : Tables E} {c : Ctx E} {soft : List E} {e f : E}
    (h : probe W T c soft e = .ok (.similarSkip f)) : T.similar e f = true ∧ f ∈ soft := by
  cases probe_shape h with
  | similarSkip _ hp =>
    cases probePrepare_shape hp with
    | similarSkip sl t0 _ _ _ _ hf => exact ⟨by simpa using List.find?_some hf, List.mem_of_find?_eq_some hf⟩

theorem mem_prioritized {T : Tables E} {b : Bytes} {pre : Bool} {e : E} :
    e ∈ prioritized T b pre ↔
      (pre = true ∧ T.declared b = some e) ∨ (∃ mk, sigOf T.marks b = some (e, mk)) ∨ e = T.ascii ∨ e = T.utf8 := by
  unfold prioritized
  cases pre <;> rcases sigOf T.marks b with _ | ⟨e', mk⟩ <;> simp [eq_comm]

-- `l.erase pe` is `l` without its first `pe`: read off `List.erase_eq_iff`, since core's `List.perm_cons_erase` and
-- `List.mem_erase_of_ne` rest on `Classical.choice`, on which the theorems that use `mem_probeOrder_iff`
-- (`fromBytes_facts`, `C05_filters`, `C01_decodes`, …) do not otherwise depend
theorem rotateFront_perm (pe : E) (l : List E) : (rotateFront pe l).Perm l := by
  unfold rotateFront
  split
  next hc =>
    rcases List.erase_eq_iff.mp (rfl : l.erase pe = _) with ⟨hn, _⟩ | ⟨l₁, l₂, _, rfl, he⟩
    · exact absurd (by simpa using hc) hn
    · rw [he]
      exact List.perm_middle.symm
  next => exact .refl _

theorem probeOrder_perm (supported prio : List E) : (probeOrder supported prio).Perm supported := by
  unfold probeOrder
  induction prio with
  | nil => exact List.Perm.refl _
  | cons p ps ih => exact (rotateFront_perm p _).trans ih

theorem mem_probeOrder_iff {supported prio : List E} {x : E} : x ∈ probeOrder supported prio ↔ x ∈ supported :=
  (probeOrder_perm supported prio).mem_iff

theorem nodup_probeOrder {supported prio : List E} (h : supported.Nodup) : (probeOrder supported prio).Nodup :=
  (probeOrder_perm supported prio).nodup_iff.mpr h

theorem allowed_iff {incl excl : List E} {e : E} :
    allowed incl excl e = true ↔ (incl = [] ∨ e ∈ incl) ∧ e ∉ excl := by
  simp [allowed]

theorem allowed_nil (e : E) : allowed ([] : List E) [] e = true := by simp [allowed]

theorem exitCond_iff {c : Ctx E} {e : E} {mean : F32} :
    exitCond c e mean = true ↔ (Fl.lt mean (F32.lit 1 10) = true ∧ e ∈ c.prio) ∨ bomHereOf c e = true := by
  simp [exitCond, bomHereOf]

theorem findByCand_mem {items : List (Match E L)} {e : E} {x : Match E L}
    (h : findByCand items e = some x) : x ∈ items ∧ e ∈ x.cands := by
  unfold findByCand at h
  exact ⟨List.mem_of_find?_eq_some h, by simpa using List.find?_some h⟩

theorem findByCand_of_mem {items : List (Match E L)} {e : E} {m : Match E L} (hm : m ∈ items) (hc : e ∈ m.cands) :
    ∃ x, findByCand items e = some x :=
  Option.isSome_iff_exists.mp (List.find?_isSome.mpr ⟨m, hm, List.contains_iff_mem.mpr hc⟩)

/-- the first test of `normWindow` settles the number of steps; the second only shrinks the chunk -/
theorem normWindow_fst (len steps chunk : Nat) :
    (normWindow len steps chunk).1 = if len ≤ chunk * steps then 1 else steps := by
  unfold normWindow
  extract_lets sc
  have : (if sc.1 > 1 ∧ len / sc.1 < sc.2 then (sc.1, len / sc.1) else sc).1 = sc.1 := by split <;> rfl
  rw [this]
  exact apply_ite Prod.fst ..

theorem normWindow_steps_pos {len steps chunk : Nat} (h : 1 ≤ steps) : 1 ≤ (normWindow len steps chunk).1 := by
  rw [normWindow_fst]; split <;> omega

theorem normWindow_steps_le {len steps chunk : Nat} : (normWindow len steps chunk).1 ≤ max steps 1 := by
  rw [normWindow_fst]; split <;> omega

end Charset
