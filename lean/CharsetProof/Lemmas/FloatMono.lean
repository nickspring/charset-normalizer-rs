/-
  Rounding in the soft-float model.  A positive ratio `n/d` is looked at through `sn n q / sd d q`, the ratio
  at the scale `2^q`; one law (`scaled_shift`) changes the scale.  On it rest: the exponent `roundPos` chooses
  is one at which the scaled ratio is a mantissa (`IsExp`, `qOf_isExp`); such an exponent is monotone in the
  ratio (`IsExp.mono`), hence unique (`IsExp.unique`); rounding is monotone (`roundPos_mono`); a value that is
  exactly a mantissa times a power of two rounds to that float (`roundPos_exact`, `roundPos_units`), in
  particular every float (`roundPos_ival`) and every small integer (`ival_roundPos_nat`).  `ival` is the value of
  a key in units of `2^qmin`, monotone in the key; a key is read as exponent field and mantissa, subnormal or not
  (`key_cases`, `ival_key`).
-/
import CharsetProof.Model.F32
namespace Charset
namespace Fl

/-- numerator and denominator of `(n/d)·2^(-q)` -/
def sn (n : Nat) (q : Int) : Nat := n * 2 ^ (-q).toNat
def sd (d : Nat) (q : Int) : Nat := d * 2 ^ q.toNat

theorem sd_pos {d : Nat} (q : Int) (hd : 0 < d) : 0 < sd d q := Nat.mul_pos hd (Nat.two_pow_pos _)

/-- `omega` is slow on `toNat`; the positive and negative parts are made variables first -/
theorem toNat_shift (q : Int) (k : Nat) : (-q).toNat + (q + k).toNat = k + ((-(q + k)).toNat + q.toNat) := by
  have h1 := Int.toNat_sub_toNat_neg q
  have h2 := Int.toNat_sub_toNat_neg (q + k)
  generalize (-q).toNat = a at *
  generalize (-(q + k)).toNat = a' at *
  generalize q.toNat = b at *
  generalize (q + k).toNat = b' at *
  omega

theorem scaled_shift (n d : Nat) (q : Int) (k : Nat) : sn n q * sd d (q + k) = 2 ^ k * (sn n (q + k) * sd d q) := by
  unfold sn sd
  rw [Nat.mul_mul_mul_comm, Nat.mul_mul_mul_comm n _ d, Nat.mul_left_comm (2 ^ _) (n * d), ← Nat.pow_add,
    ← Nat.pow_add, ← Nat.pow_add, toNat_shift q k]

theorem scaled_ge_iff (n : Nat) {d : Nat} (hd : 0 < d) (q : Int) (k : Nat) :
    sd d (q + k) ≤ sn n (q + k) ↔ 2 ^ k * sd d q ≤ sn n q := by
  -- multiply by `sd d (q + k)`, change the scale, cancel `2^k` and `sd d q`
  rw [← Nat.mul_le_mul_right_iff (sd_pos (q + k) hd) (n := 2 ^ k * sd d q), scaled_shift n d q k, Nat.mul_assoc,
    Nat.mul_le_mul_left_iff (Nat.two_pow_pos k), Nat.mul_comm (sd d q), Nat.mul_le_mul_right_iff (sd_pos q hd)]

theorem scaled_pow (a b : Nat) : sn (2 ^ a) ((a : Int) - b) = sd (2 ^ b) ((a : Int) - b) := by
  unfold sn sd
  rw [← Nat.pow_add, ← Nat.pow_add]
  congr 1; omega

theorem ge2pow_iff (n d : Nat) (E : Int) : ge2pow n d E = true ↔ sd d E ≤ sn n E := by
  unfold ge2pow sn sd
  split
  · have : (-E).toNat = 0 := by omega
    simp [this]
  · have : E.toNat = 0 := by omega
    simp [this]

theorem scaled_ge_anti {n d : Nat} (hd : 0 < d) {E E' : Int} (hle : E' ≤ E) (h : sd d E ≤ sn n E) :
    sd d E' ≤ sn n E' := by
  have hE : E = E' + ((E - E').toNat : Nat) := by omega
  rw [hE, scaled_ge_iff n hd] at h
  exact Nat.le_trans (Nat.le_mul_of_pos_left _ (Nat.two_pow_pos _)) h

theorem floorLog2_spec {n d : Nat} (hn : 0 < n) (hd : 0 < d) :
    ge2pow n d (floorLog2 n d) = true ∧ ge2pow n d (floorLog2 n d + 1) = false := by
  have ha1 : 2 ^ n.log2 ≤ n := Nat.log2_self_le (Nat.ne_of_gt hn)
  have ha2 : n < 2 ^ (n.log2 + 1) := Nat.lt_log2_self
  have hb1 : 2 ^ d.log2 ≤ d := Nat.log2_self_le (Nat.ne_of_gt hd)
  have hb2 : d < 2 ^ (d.log2 + 1) := Nat.lt_log2_self
  unfold floorLog2
  simp only []
  generalize n.log2 = a at *
  generalize d.log2 = b at *
  -- `2^a ≤ n < 2^(a+1)` and `2^b ≤ d < 2^(b+1)` give `2^(a-b-1) < n/d < 2^(a-b+1)`: the exponent is `a-b` or `a-b-1`
  have hupper : ge2pow n d ((a : Int) - b + 1) = false := by
    have e : (a : Int) - b + 1 = ((a + 1 : Nat) : Int) - b := by omega
    rw [Bool.eq_false_iff, Ne, ge2pow_iff, Nat.not_le, e]
    calc sn n _ < sn (2 ^ (a + 1)) _ := Nat.mul_lt_mul_of_pos_right ha2 (Nat.two_pow_pos _)
      _ = sd (2 ^ b) _ := scaled_pow (a + 1) b
      _ ≤ sd d _ := Nat.mul_le_mul_right _ hb1
  have hlower : ge2pow n d ((a : Int) - b - 1) = true := by
    have e : (a : Int) - b - 1 = (a : Int) - ((b + 1 : Nat) : Int) := by omega
    rw [ge2pow_iff, e]
    calc sd d _ ≤ sd (2 ^ (b + 1)) _ := Nat.mul_le_mul_right _ (Nat.le_of_lt hb2)
      _ = sn (2 ^ a) _ := (scaled_pow a (b + 1)).symm
      _ ≤ sn n _ := Nat.mul_le_mul_right _ ha1
  split
  · rename_i h
    exact ⟨h, hupper⟩
  · rename_i h
    rw [Int.sub_add_cancel]
    exact ⟨hlower, Bool.eq_false_iff.mpr h⟩

/-- the integer nearest to `n/d`, ties to even (the `m'` of `roundPos`) -/
def rnd (n d : Nat) : Nat :=
  if d < 2 * (n % d) ∨ (2 * (n % d) = d ∧ (n / d) % 2 = 1) then n / d + 1 else n / d

theorem rnd_bounds (n d : Nat) : n / d ≤ rnd n d ∧ rnd n d ≤ n / d + 1 := by unfold rnd; split <;> omega

/-- `a/b ≤ c/d ≤ e/g` -/
theorem cross_trans {a b c d e g : Nat} (hd : 0 < d) (h1 : a * d ≤ c * b) (h2 : c * g ≤ e * d) : a * g ≤ e * b := by
  apply Nat.le_of_mul_le_mul_right _ hd
  calc a * g * d = a * d * g := Nat.mul_right_comm a g d
    _ ≤ c * b * g := Nat.mul_le_mul_right g h1
    _ = c * g * b := Nat.mul_right_comm c b g
    _ ≤ e * d * b := Nat.mul_le_mul_right b h2
    _ = e * b * d := Nat.mul_right_comm e d b

/-- `a ≤ c/d ≤ e/g` -/
theorem cross_trans_nat {a c d e g : Nat} (hd : 0 < d) (h1 : a * d ≤ c) (h2 : c * g ≤ e * d) : a * g ≤ e := by
  have := cross_trans (b := 1) hd (by rwa [Nat.mul_one]) h2
  rwa [Nat.mul_one] at this

theorem rnd_mono {n1 d1 n2 d2 : Nat} (hd1 : 0 < d1) (hd2 : 0 < d2) (h : n1 * d2 ≤ n2 * d1) :
    rnd n1 d1 ≤ rnd n2 d2 := by
  have hdiv : n1 / d1 ≤ n2 / d2 :=
    (Nat.le_div_iff_mul_le hd2).mpr (cross_trans_nat hd1 (Nat.div_mul_le_self n1 d1) h)
  rcases Nat.lt_or_eq_of_le hdiv with hlt | heq
  · exact Nat.le_trans (rnd_bounds n1 d1).2 (Nat.le_trans hlt (rnd_bounds n2 d2).1)
  -- same integer part `m`: the remainders compare as the ratios do, and so do the decisions to round up
  have e1 := Nat.div_add_mod n1 d1
  have e2 := Nat.div_add_mod n2 d2
  unfold rnd
  rw [← heq] at e2 ⊢
  generalize n1 / d1 = m at *
  generalize n1 % d1 = r1 at *
  generalize n2 % d2 = r2 at *
  have hr : r1 * d2 ≤ r2 * d1 := by
    have a3 : d1 * m * d2 = d2 * m * d1 := by rw [Nat.mul_right_comm, Nat.mul_comm d1 d2, Nat.mul_right_comm]
    rw [← e1, ← e2, Nat.add_mul, Nat.add_mul, a3] at h
    exact Nat.le_of_add_le_add_left h
  have hge : 1 * d1 ≤ r1 * 2 → 1 * d2 ≤ r2 * 2 := fun h1 => cross_trans hd1 h1 hr
  have hle : r2 * 2 ≤ 1 * d2 → r1 * 2 ≤ 1 * d1 := fun h2 => cross_trans hd2 hr h2
  by_cases hu1 : d1 < 2 * r1 ∨ (2 * r1 = d1 ∧ m % 2 = 1)
  · rw [if_pos hu1, if_pos (by omega)]
    exact Nat.le_refl _
  · rw [if_neg hu1]
    split
    · exact Nat.le_succ m
    · exact Nat.le_refl m

theorem rnd_exact (M : Nat) {d : Nat} (hd : 0 < d) : rnd (M * d) d = M := by
  unfold rnd
  rw [Nat.mul_mod_left, Nat.mul_div_cancel _ hd]
  have : ¬ (d < 2 * 0 ∨ 2 * 0 = d ∧ M % 2 = 1) := by omega
  simp only [this, ↓reduceIte]

def qOf (f : Fmt) (n d : Nat) : Int := max (floorLog2 n d - f.mbits) f.qmin

theorem roundPos_zero (f : Fmt) (d : Nat) : roundPos f 0 d = 0 := by
  unfold roundPos; simp

theorem roundPos_eq (f : Fmt) {n d : Nat} (hn : 0 < n) (hd : 0 < d) :
    roundPos f n d =
      min f.infKey ((qOf f n d - f.qmin).toNat * 2 ^ f.mbits + rnd (sn n (qOf f n d)) (sd d (qOf f n d))) := by
  -- `roundPos` scales one of `n`, `d`; `sn` and `sd` scale the other one by `2^0`
  have hsn (q : Int) : (if 0 ≤ q then n else n * 2 ^ (-q).toNat) = sn n q := by
    unfold sn; split
    · rw [Int.toNat_of_nonpos (by omega), Nat.pow_zero, Nat.mul_one]
    · rfl
  have hsd (q : Int) : (if 0 ≤ q then d * 2 ^ q.toNat else d) = sd d q := by
    unfold sd; split
    · rfl
    · rw [Int.toNat_of_nonpos (by omega), Nat.pow_zero, Nat.mul_one]
  unfold roundPos
  have h0 : ¬ (n = 0 ∨ d = 0) := by omega
  simp only [h0, ↓reduceIte, hsn, hsd]
  rfl

theorem roundPos_le_inf (f : Fmt) (n d : Nat) : roundPos f n d ≤ f.infKey := by
  unfold roundPos
  split
  · exact Nat.zero_le _
  · exact Nat.min_le_left _ _

theorem scaled_cross_le {n1 d1 n2 d2 : Nat} (q : Int) (hv : n1 * d2 ≤ n2 * d1) :
    sn n1 q * sd d2 q ≤ sn n2 q * sd d1 q := by
  unfold sn sd
  rw [Nat.mul_mul_mul_comm, Nat.mul_mul_mul_comm n2]
  exact Nat.mul_le_mul_right _ hv

/-- `q` can be the exponent of the float nearest to `n/d`: the ratio at the scale `q` is a mantissa, i.e. lies
    below `2^(mbits+1)` and – unless `q` is clamped to `qmin` (subnormal) – at or above `2^mbits` -/
structure IsExp (f : Fmt) (n d : Nat) (q : Int) : Prop where
  ge_qmin : f.qmin ≤ q
  lt : sn n q < 2 ^ (f.mbits + 1) * sd d q
  le : f.qmin < q → 2 ^ f.mbits * sd d q ≤ sn n q

theorem qOf_isExp (f : Fmt) {n d : Nat} (hn : 0 < n) (hd : 0 < d) : IsExp f n d (qOf f n d) := by
  have spec := floorLog2_spec hn hd
  rw [ge2pow_iff, Bool.eq_false_iff, Ne, ge2pow_iff] at spec
  have hq1 : floorLog2 n d - f.mbits ≤ qOf f n d := Int.le_max_left _ _
  have hq2 : f.qmin < qOf f n d → qOf f n d = floorLog2 n d - f.mbits := by unfold qOf; omega
  refine ⟨Int.le_max_right _ _, ?_, ?_⟩
  · apply Nat.lt_of_not_le
    rw [← scaled_ge_iff n hd]
    exact fun h => spec.2 (scaled_ge_anti hd (by omega) h)
  · intro hnormal
    have : qOf f n d + (f.mbits : Nat) = floorLog2 n d := by have := hq2 hnormal; omega
    rw [← scaled_ge_iff n hd, this]
    exact spec.1

theorem IsExp.mono {f : Fmt} {n1 d1 n2 d2 : Nat} {q1 q2 : Int} (e1 : IsExp f n1 d1 q1) (e2 : IsExp f n2 d2 q2)
    (hd1 : 0 < d1) (hd2 : 0 < d2) (hv : n1 * d2 ≤ n2 * d1) : q1 ≤ q2 := by
  apply Int.not_lt.mp
  intro hlt
  -- `q1` is above `qmin`, so at `q1` the smaller ratio is at least `2^mbits`; the larger one too, and at `q2 < q1`
  -- it is at least `2^(mbits+1)`
  have hn2 : 2 ^ f.mbits * sd d2 q1 ≤ sn n2 q1 :=
    cross_trans_nat (sd_pos q1 hd1) (e1.le (Int.lt_of_le_of_lt e2.ge_qmin hlt))
      (scaled_cross_le q1 hv)
  rw [← scaled_ge_iff n2 hd2] at hn2
  apply Nat.not_le.mpr e2.lt
  rw [← scaled_ge_iff n2 hd2]
  exact scaled_ge_anti hd2 (by omega) hn2

theorem IsExp.unique {f : Fmt} {n d : Nat} {q : Int} (e : IsExp f n d q) (hn : 0 < n) (hd : 0 < d) :
    qOf f n d = q :=
  Int.le_antisymm ((qOf_isExp f hn hd).mono e hd hd (Nat.le_refl _))
    (e.mono (qOf_isExp f hn hd) hd hd (Nat.le_refl _))

theorem binade_le {P A1 A2 m1 m2 : Nat} (hA : A1 < A2) (h1 : m1 ≤ 2 * P) (h2 : P ≤ m2) :
    A1 * P + m1 ≤ A2 * P + m2 := by
  have : (A1 + 1) * P ≤ A2 * P := Nat.mul_le_mul_right _ hA
  rw [Nat.add_mul, Nat.one_mul] at this
  omega

theorem roundPos_mono (f : Fmt) (n1 d1 n2 d2 : Nat) (hd1 : 0 < d1) (hd2 : 0 < d2)
    (hv : n1 * d2 ≤ n2 * d1) : roundPos f n1 d1 ≤ roundPos f n2 d2 := by
  rcases Nat.eq_zero_or_pos n1 with h0 | hn1
  · rw [h0, roundPos_zero]; exact Nat.zero_le _
  have hn2 : 0 < n2 := Nat.pos_of_mul_pos_right (Nat.lt_of_lt_of_le (Nat.mul_pos hn1 hd2) hv)
  rw [roundPos_eq f hn1 hd1, roundPos_eq f hn2 hd2]
  refine Nat.le_min.mpr ⟨Nat.min_le_left _ _, Nat.le_trans (Nat.min_le_right _ _) ?_⟩
  have e1 := qOf_isExp f hn1 hd1
  have e2 := qOf_isExp f hn2 hd2
  generalize qOf f n1 d1 = q1 at *
  generalize qOf f n2 d2 = q2 at *
  rcases Int.lt_or_eq_of_le (e1.mono e2 hd1 hd2 hv) with hlt | heq
  · -- different binades: the lower mantissa is at most `2^(mbits+1)`, the upper one normal
    have hq2 : f.qmin < q2 := Int.lt_of_le_of_lt e1.ge_qmin hlt
    apply binade_le
    · exact (Int.toNat_lt_toNat (Int.sub_pos.mpr hq2)).mpr (Int.sub_lt_sub_right hlt _)
    · rw [← Nat.pow_succ']
      exact Nat.le_trans (rnd_bounds _ _).2 ((Nat.div_lt_iff_lt_mul (sd_pos q1 hd1)).mpr e1.lt)
    · exact Nat.le_trans ((Nat.le_div_iff_mul_le (sd_pos q2 hd2)).mpr (e2.le hq2)) (rnd_bounds _ _).1
  · subst heq
    exact Nat.add_le_add_left (rnd_mono (sd_pos q1 hd1) (sd_pos q1 hd2)
      (scaled_cross_le q1 hv)) _

theorem roundPos_ratio_eq (f : Fmt) {n1 d1 n2 d2 : Nat} (hd1 : 0 < d1) (hd2 : 0 < d2)
    (h : n1 * d2 = n2 * d1) : roundPos f n1 d1 = roundPos f n2 d2 :=
  Nat.le_antisymm (roundPos_mono f n1 d1 n2 d2 hd1 hd2 (Nat.le_of_eq h))
    (roundPos_mono f n2 d2 n1 d1 hd2 hd1 (Nat.le_of_eq h.symm))

theorem roundPos_exact (f : Fmt) (n d : Nat) (hn : 0 < n) (hd : 0 < d) (q : Int) (M : Nat) (hq : f.qmin ≤ q)
    (hM : sn n q = M * sd d q) (hhi : M < 2 ^ (f.mbits + 1)) (hlo : f.qmin < q → 2 ^ f.mbits ≤ M) :
    roundPos f n d = min f.infKey ((q - f.qmin).toNat * 2 ^ f.mbits + M) := by
  have hs := sd_pos q hd
  have e : IsExp f n d q :=
    ⟨hq, by rw [hM]; exact Nat.mul_lt_mul_of_pos_right hhi hs,
      fun h => by rw [hM]; exact Nat.mul_le_mul_right _ (hlo h)⟩
  rw [roundPos_eq f hn hd, e.unique hn hd, hM, rnd_exact _ hs]

/-- `ival k = value(k) / 2^qmin` for a finite non-negative key -/
def ival (f : Fmt) (k : Nat) : Nat :=
  let e := k / 2 ^ f.mbits
  let fr := k % 2 ^ f.mbits
  if e = 0 then fr else (2 ^ f.mbits + fr) * 2 ^ (e - 1)

def scale (f : Fmt) : Nat := 2 ^ (-f.qmin).toNat

theorem scale_pos (f : Fmt) : 0 < scale f := Nat.two_pow_pos _

theorem decodeKey_ival (f : Fmt) (k : Nat) :
    (decodeKey f k).1 * 2 ^ ((decodeKey f k).2 - f.qmin).toNat = ival f k ∧ f.qmin ≤ (decodeKey f k).2 := by
  unfold decodeKey ival
  simp only []
  split
  · simp
  · rename_i he
    have : (f.qmin + ((k / 2 ^ f.mbits : Nat) : Int) - 1 - f.qmin).toNat = k / 2 ^ f.mbits - 1 := by omega
    simp only [this]
    refine ⟨trivial, ?_⟩
    have h1 : 1 ≤ k / 2 ^ f.mbits := Nat.pos_of_ne_zero he
    omega

/-- `A` is the biased exponent less one, `M` the mantissa, implicit bit included; the subnormals share the field `0`
    with the first binade, as they share its exponent -/
theorem key_cases {P : Nat} (hP : 0 < P) (k : Nat) : ∃ A M, k = A * P + M ∧ (0 < A → P ≤ M) ∧ M < P * 2 := by
  rcases Nat.lt_or_ge k P with h | h
  · exact ⟨0, k, by rw [Nat.zero_mul, Nat.zero_add], fun h0 => absurd h0 (Nat.lt_irrefl 0),
      Nat.lt_of_lt_of_le h (Nat.le_mul_of_pos_right P (by decide))⟩
  have hdm := Nat.div_add_mod k P
  have hr := Nat.mod_lt k hP
  have he : 1 ≤ k / P := (Nat.le_div_iff_mul_le hP).mpr (by omega)
  obtain ⟨e, he⟩ : ∃ e, k / P = e + 1 := ⟨k / P - 1, by omega⟩
  rw [he, Nat.mul_comm, Nat.add_mul, Nat.one_mul] at hdm
  exact ⟨e, P + k % P, by omega, fun _ => by omega, by omega⟩

theorem ival_key (f : Fmt) (A : Nat) {M : Nat} (hlo : 0 < A → 2 ^ f.mbits ≤ M) (hhi : M < 2 ^ f.mbits * 2) :
    ival f (A * 2 ^ f.mbits + M) = M * 2 ^ A := by
  have hP : 0 < 2 ^ f.mbits := Nat.two_pow_pos _
  unfold ival
  rcases Nat.lt_or_ge M (2 ^ f.mbits) with h | h
  · -- a subnormal: exponent field and biased exponent `0`
    have hA : A = 0 := Nat.eq_zero_of_not_pos fun hA => Nat.not_le.mpr h (hlo hA)
    rw [hA, Nat.zero_mul, Nat.zero_add, Nat.div_eq_of_lt h, Nat.mod_eq_of_lt h, Nat.pow_zero, Nat.mul_one]
    rfl
  · -- biased exponent `A + 1`, fraction `M - 2^mbits`
    have hk : A * 2 ^ f.mbits + M = (M - 2 ^ f.mbits) + (A + 1) * 2 ^ f.mbits := by rw [Nat.add_mul]; omega
    rw [hk, Nat.add_mul_div_right _ _ hP, Nat.div_eq_of_lt (by omega), Nat.add_mul_mod_self_right,
      Nat.mod_eq_of_lt (by omega), Nat.zero_add, if_neg (Nat.succ_ne_zero A), Nat.add_sub_cancel' h,
      Nat.add_sub_cancel]

theorem ival_zero (f : Fmt) : ival f 0 = 0 := by simp [ival]

theorem ival_pos (f : Fmt) {k : Nat} (h : 0 < k) : 0 < ival f k := by
  obtain ⟨A, M, rfl, hlo, hhi⟩ := key_cases (Nat.two_pow_pos f.mbits) k
  rw [ival_key f A hlo hhi]
  -- the mantissa `0` occurs only in the exponent field `0`, where the key is the mantissa
  refine Nat.mul_pos ?_ (Nat.two_pow_pos _)
  rcases Nat.eq_zero_or_pos A with hA | hA
  · rwa [hA, Nat.zero_mul, Nat.zero_add] at h
  · exact Nat.lt_of_lt_of_le (Nat.two_pow_pos _) (hlo hA)

theorem ival_mono (f : Fmt) {k1 k2 : Nat} (h : k1 ≤ k2) : ival f k1 ≤ ival f k2 := by
  have hP : 0 < 2 ^ f.mbits := Nat.two_pow_pos _
  obtain ⟨A1, M1, rfl, hlo1, hhi1⟩ := key_cases hP k1
  obtain ⟨A2, M2, rfl, hlo2, hhi2⟩ := key_cases hP k2
  rw [ival_key f A1 hlo1 hhi1, ival_key f A2 hlo2 hhi2]
  generalize 2 ^ f.mbits = P at *
  rcases Nat.lt_trichotomy A1 A2 with hA | hA | hA
  · -- lower binade: `M1·2^A1 < P·2^(A1+1) ≤ P·2^A2 ≤ M2·2^A2`
    have a1 : M1 * 2 ^ A1 ≤ P * 2 * 2 ^ A1 := Nat.mul_le_mul_right _ (Nat.le_of_lt hhi1)
    have a2 : P * 2 * 2 ^ A1 = P * 2 ^ (A1 + 1) := by rw [Nat.mul_assoc, ← Nat.pow_succ']
    have a3 : P * 2 ^ (A1 + 1) ≤ P * 2 ^ A2 := Nat.mul_le_mul_left _ (Nat.pow_le_pow_right (by decide) hA)
    have a4 : P * 2 ^ A2 ≤ M2 * 2 ^ A2 := Nat.mul_le_mul_right _ (hlo2 (Nat.zero_lt_of_lt hA))
    omega
  · subst hA; exact Nat.mul_le_mul_right _ (by omega)
  · -- a higher binade would make the key larger
    exfalso
    have hM1 := hlo1 (Nat.zero_lt_of_lt hA)
    have : (A2 + 1) * P ≤ A1 * P := Nat.mul_le_mul_right _ hA
    rw [Nat.add_mul, Nat.one_mul] at this
    omega

/-- `roundPos_exact` in natural numbers: the value is given in units of `2^qmin` -/
theorem roundPos_units (f : Fmt) (hq0 : f.qmin ≤ 0) (A : Nat) {M : Nat} (hlo : 0 < A → 2 ^ f.mbits ≤ M)
    (hhi : M < 2 ^ f.mbits * 2) : roundPos f (M * 2 ^ A) (scale f) = min f.infKey (A * 2 ^ f.mbits + M) := by
  rcases Nat.eq_zero_or_pos M with h0 | hM
  · -- the mantissa `0` occurs only in the exponent field `0`
    subst h0
    have hA : A = 0 :=
      Nat.eq_zero_of_not_pos fun hA => Nat.not_succ_le_zero 0 (Nat.le_trans (Nat.two_pow_pos _) (hlo hA))
    rw [hA, Nat.zero_mul, roundPos_zero, Nat.zero_mul, Nat.min_zero]
  have h := roundPos_exact f (M * 2 ^ A) (scale f) (Nat.mul_pos hM (Nat.two_pow_pos _)) (scale_pos f) (f.qmin + A) M
    (Int.le_add_of_nonneg_right (Int.natCast_nonneg A))
    (by unfold sn sd scale
        rw [Nat.mul_assoc, ← Nat.pow_add, ← Nat.pow_add, toNat_shift f.qmin A, Int.toNat_of_nonpos hq0, Nat.add_zero])
    (by rwa [Nat.pow_succ]) (fun h => hlo (by omega))
  rwa [Int.add_comm f.qmin, Int.add_sub_cancel, Int.toNat_natCast] at h

theorem roundPos_ival_cap (f : Fmt) (hq0 : f.qmin ≤ 0) (k : Nat) :
    roundPos f (ival f k) (scale f) = min f.infKey k := by
  obtain ⟨A, M, rfl, hlo, hhi⟩ := key_cases (Nat.two_pow_pos f.mbits) k
  rw [ival_key f A hlo hhi]
  exact roundPos_units f hq0 A hlo hhi

theorem roundPos_ival (f : Fmt) (hq0 : f.qmin ≤ 0) (k : Nat) (hk : k < f.infKey) :
    roundPos f (ival f k) (scale f) = k := by
  rw [roundPos_ival_cap f hq0 k, Nat.min_eq_right (Nat.le_of_lt hk)]

theorem ival_roundPos_nat (f : Fmt) (hq : f.qmin ≤ -(f.mbits : Int)) (j : Nat) (h1 : 1 ≤ j)
    (h2 : j < 2 ^ (f.mbits + 1)) (hcap : roundPos f j 1 < f.infKey) :
    ival f (roundPos f j 1) = j * scale f := by
  have hq0 : f.qmin ≤ 0 := Int.le_trans hq (Int.neg_nonpos_of_nonneg (Int.natCast_nonneg _))
  have hN : f.mbits ≤ (-f.qmin).toNat := by omega
  have hsc : scale f = 2 ^ (-f.qmin).toNat := rfl
  generalize (-f.qmin).toNat = N at hN hsc
  have hlo : 2 ^ j.log2 ≤ j := Nat.log2_self_le (Nat.ne_of_gt h1)
  have hhi : j < 2 ^ (j.log2 + 1) := Nat.lt_log2_self
  have hL : j.log2 < f.mbits + 1 := (Nat.log2_lt (Nat.ne_of_gt h1)).2 h2
  generalize j.log2 = L at *
  -- `j = M·2^A / scale` for the normal mantissa `M = j·2^s`, where `s = mbits - L` and `s + A = -qmin`
  obtain ⟨s, hs⟩ : ∃ s, L + s = f.mbits := ⟨f.mbits - L, by omega⟩
  obtain ⟨A, hA⟩ : ∃ A, s + A = N := ⟨N - s, by omega⟩
  have hMlo : 2 ^ f.mbits ≤ j * 2 ^ s := by
    rw [← hs, Nat.pow_add]; exact Nat.mul_le_mul_right _ hlo
  have hMhi : j * 2 ^ s < 2 ^ f.mbits * 2 := by
    rw [← Nat.pow_succ, ← hs, ← Nat.succ_add, Nat.pow_add]
    exact Nat.mul_lt_mul_of_pos_right hhi (Nat.two_pow_pos _)
  have hv : j * 2 ^ s * 2 ^ A = j * scale f := by rw [Nat.mul_assoc, ← Nat.pow_add, hA, hsc]
  have hr : roundPos f j 1 = min f.infKey (A * 2 ^ f.mbits + j * 2 ^ s) := by
    rw [roundPos_ratio_eq f (n2 := j * scale f) Nat.one_pos (scale_pos f) (Nat.mul_one _).symm, ← hv]
    exact roundPos_units f hq0 A (fun _ => hMlo) hMhi
  rw [hr] at hcap ⊢
  rw [Nat.min_eq_right (by omega), ival_key f A (fun _ => hMlo) hMhi, hv]

variable {f : Fmt}

/-- rounding is monotone, so one evaluation at the upper end of a range of integers settles that none of them rounds
    to infinity (and one at `1` that none rounds to zero: `Good.nat_pos`) -/
theorem roundPos_nat_lt_inf_of {B : Nat} (hB : roundPos f B 1 < f.infKey) {n : Nat} (h : n ≤ B) :
    roundPos f n 1 < f.infKey :=
  Nat.lt_of_le_of_lt (roundPos_mono f n 1 B 1 (by decide) (by decide) (by omega)) hB

/-- what the exactness lemmas need of a format: the exponent range, and that the integers from `1` to
    `2^(mbits+1)` neither underflow nor overflow -/
structure Good (f : Fmt) : Prop where
  qmin_le : f.qmin ≤ -(f.mbits : Int)
  one_pos : 0 < roundPos f 1 1
  top_finite : roundPos f (2 ^ (f.mbits + 1)) 1 < f.infKey

theorem Good.qmin_le_zero (g : Good f) : f.qmin ≤ 0 :=
  Int.le_trans g.qmin_le (Int.neg_nonpos_of_nonneg (Int.natCast_nonneg _))

theorem Good.nat_pos (g : Good f) {n : Nat} (h : 1 ≤ n) : 0 < roundPos f n 1 :=
  Nat.lt_of_lt_of_le g.one_pos (roundPos_mono f 1 1 n 1 (by decide) (by decide) (by omega))

theorem Good.nat_finite (g : Good f) (j : Nat) (hj : j < 2 ^ (f.mbits + 1)) : roundPos f j 1 < f.infKey :=
  roundPos_nat_lt_inf_of g.top_finite (Nat.le_of_lt hj)

theorem Good.ival_nat (g : Good f) (j : Nat) (hj : j < 2 ^ (f.mbits + 1)) :
    ival f (roundPos f j 1) = j * scale f := by
  rcases Nat.eq_zero_or_pos j with h0 | hpos
  · rw [h0, roundPos_zero, ival_zero, Nat.zero_mul]
  · exact ival_roundPos_nat f g.qmin_le j hpos hj (g.nat_finite j hj)

end Fl

theorem good32 : Fl.Good fmt32 := ⟨by decide, by decide +kernel, by decide +kernel⟩

theorem good64 : Fl.Good fmt64 := ⟨by decide, by decide +kernel, by decide +kernel⟩

end Charset
