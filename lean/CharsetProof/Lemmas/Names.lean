/-
  `iana_name` on the dumped tables: supported names are fixed points; the supported list has no duplicates.
-/
import CharsetProof.Model.Concrete
import CharsetProof.Lemmas.Lookup
import CharsetProof.Lemmas.Probe
namespace Charset

theorem ianaNameOf_mem {supported : List Name} {labels : List (Name × Name)} {n e : Name}
    (h : ianaNameOf supported labels n = some e) : e ∈ supported ++ labels.map (·.2) := by
  unfold ianaNameOf at h
  split at h
  · cases h; exact List.mem_append_left _ (List.contains_iff_mem.mp ‹_›)
  · exact List.mem_append_right _ (List.mem_map.mpr ⟨_, lookupName_mem h, rfl⟩)

theorem ianaNow_supported {e : Name} (h : e ∈ Gen.supported) : ianaNow e = some e := by
  unfold ianaNow ianaNameOf
  rw [if_pos (List.contains_iff_mem.mpr h)]

theorem canonList_supported {es : List Name} (h : ∀ e ∈ es, e ∈ Gen.supported) : canonList ianaNow es = .ok es :=
  canonList_fixed fun e he => ianaNow_supported (h e he)

/-- T1 obligation: the supported list has no duplicates -/
theorem supported_nodup_now : tablesNow.supported.Nodup := by
  decide +kernel

/-- among all canonical names the compiled crate can produce, the ones outside the supported list are the only ones that
    can fail to be fixed points of `iana_name` (today "replacement", which the codec crate returns for the ISO-2022-KR/CN
    and HZ labels, is not accepted back; that it is not is not part of this check) -/
def ianaImageFixedB : Bool :=
  (Gen.supported ++ Gen.labels.map (·.2)).all
    (fun v => ianaNow v == some v || !Gen.supported.contains v)

-- holds of any tables: it is `ianaNow_supported` in Bool form
theorem ianaImageFixed : ianaImageFixedB = true :=
  List.all_eq_true.mpr fun v _ => by
    cases h : Gen.supported.contains v
    · simp
    · simp [ianaNow_supported (List.contains_iff_mem.mp h)]

end Charset
