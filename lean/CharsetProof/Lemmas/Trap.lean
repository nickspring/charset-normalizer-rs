import CharsetProof.Model.DecodeHelper
namespace Charset

/-! How `DecoderTrap::Strict` reads an event stream, one event at a time. -/

theorem applyTrap_strict_cons_some (cp : Nat) (evs : List (Option Nat)) :
    applyTrap .strict (some cp :: evs) = (applyTrap .strict evs).map (cp :: ·) := by
  unfold applyTrap
  simp only [List.all_cons, Option.isSome_some, Bool.true_and, List.filterMap_cons, id_eq]
  split <;> rfl

theorem applyTrap_strict_cons_none (evs : List (Option Nat)) : applyTrap .strict (none :: evs) = none := by
  simp [applyTrap]

theorem applyTrap_strict_append_somes (cs : List Nat) (evs : List (Option Nat)) :
    applyTrap .strict (cs.map some ++ evs) = (applyTrap .strict evs).map (cs ++ ·) := by
  induction cs with
  | nil => simp
  | cons c cs ih =>
    rw [List.map_cons, List.cons_append, applyTrap_strict_cons_some, ih]
    cases applyTrap .strict evs <;> rfl

theorem applyTrap_agree (evs : List (Option Nat)) (t : Text) (h : applyTrap .strict evs = some t) :
    applyTrap .ignore evs = some t ∧ applyTrap .replace evs = some t := by
  simp only [applyTrap] at h ⊢
  by_cases hall : evs.all Option.isSome = true
  · rw [if_pos hall] at h
    cases h
    refine ⟨rfl, ?_⟩
    congr 1
    induction evs with
    | nil => rfl
    | cons e es ih =>
      simp only [List.all_cons, Bool.and_eq_true] at hall
      cases e with
      | none => simp at hall
      | some x => simp only [List.map_cons, Option.getD_some, List.filterMap_cons, id_eq]; rw [ih hall.2]
  · rw [if_neg hall] at h; cases h

end Charset
