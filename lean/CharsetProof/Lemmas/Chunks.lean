/-
  The chunk analysis (`probeChunks` / `chunkLoop`) described once: what a successful run has collected, and where
  (`offsets`) it looks.
-/
import CharsetProof.Lemmas.Probe
namespace Charset
variable {E L : Type} [DecidableEq E]

theorem probeChunks_ok {W : World E L} {T : Tables E} {c : Ctx E} {e : E} {p : Prepared} {acc : ChunkAcc}
    (h : probeChunks W T c e p = .ok acc) :
    c.steps ≠ 0 ∧ chunkLoop W T c e p.payload (seqLenOf c p) (maxGaveUpOf c)
      (offsets (startOffOf p) (seqLenOf c p) (max (seqLenOf c p / c.steps) 1)) {} = .ok acc := by
  unfold probeChunks divF at h
  by_cases hs : c.steps = 0
  · simp [hs, fault] at h
  · simp only [hs, ↓reduceIte] at h; exact ⟨hs, h⟩

omit [DecidableEq E] in
theorem seqLenOf_some {c : Ctx E} {p : Prepared} {t : Text} (h : p.payload = some t) : seqLenOf c p = t.length := by
  rw [seqLenOf, h]

omit [DecidableEq E] in
theorem seqLenOf_none {c : Ctx E} {p : Prepared} (h : p.payload = none) : seqLenOf c p = c.b.length := by
  rw [seqLenOf, h]

theorem startOffOf_some {p : Prepared} {t : Text} (h : p.payload = some t) : startOffOf p = 0 := by
  simp [startOffOf, h]

/-- the analysed chunks with their ratios, in order: `acc'` is `acc` extended by them; the loop stopped at an
    invalid chunk (`early = maxGaveUp`) or left `lazyHard` alone -/
theorem chunkLoop_trace {W : World E L} {T : Tables E} {c : Ctx E} {e : E} {payload : Option Text}
    {seqLen maxGaveUp : Nat} {offs : List Nat} {acc acc' : ChunkAcc}
    (h : chunkLoop W T c e payload seqLen maxGaveUp offs acc = .ok acc') :
    ∃ trs : List (Text × F32), trs.length ≤ offs.length ∧
      (∀ tr ∈ trs, W.mess tr.1 c.thr = .ok tr.2) ∧
      acc'.chunks = acc.chunks ++ trs.map (·.1) ∧ acc'.ratios = acc.ratios ++ trs.map (·.2) ∧
      (acc'.lazyHard = acc.lazyHard ∨
       (acc'.early = maxGaveUp ∧ ∃ off ∈ offs, chunkAt W T c e payload seqLen off = .ok none)) := by
  fun_induction chunkLoop W T c e payload seqLen maxGaveUp offs acc generalizing acc' with
  | case1 acc => cases h; exact ⟨[], by simp⟩
  | case2 => cases h
  | case3 off offs acc hch =>
    cases h
    exact ⟨[], by simp, by simp, by simp, by simp, Or.inr ⟨rfl, off, by simp, hch⟩⟩
  | case4 => cases h
  | case5 off offs acc t ht r hr _ =>
    cases h
    exact ⟨[(t, r)], by simp, by simp [hr], by simp, by simp, Or.inl rfl⟩
  | case6 off offs acc t ht r hr _ ih =>
    obtain ⟨trs, hlen, hall, hch, hra, hlz⟩ := ih h
    refine ⟨(t, r) :: trs, by simpa using hlen, List.forall_mem_cons.mpr ⟨hr, hall⟩, by simpa using hch,
      by simpa using hra, ?_⟩
    · rcases hlz with h1 | ⟨h2, o, ho, h3⟩
      · exact Or.inl h1
      · exact Or.inr ⟨h2, o, by simp [ho], h3⟩

/-- a decoded payload of an encoding other than `ascii` has no invalid chunk -/
theorem chunkLoop_keeps_lazyHard {W : World E L} {T : Tables E} {c : Ctx E} {e : E} {t : Text}
    {seqLen maxGaveUp : Nat} (hne : e ≠ T.ascii) {offs : List Nat} {acc acc' : ChunkAcc}
    (h : chunkLoop W T c e (some t) seqLen maxGaveUp offs acc = .ok acc') : acc'.lazyHard = acc.lazyHard := by
  obtain ⟨_, _, _, _, _, h5 | ⟨_, off, _, h5⟩⟩ := chunkLoop_trace h
  · exact h5
  · simp [chunkAt, validChunk, hne] at h5

theorem probeChunks_trace {W : World E L} {T : Tables E} {c : Ctx E} {e : E} {p : Prepared} {acc : ChunkAcc}
    (h : probeChunks W T c e p = .ok acc) :
    ∃ trs : List (Text × F32),
      trs.length ≤ (offsets (startOffOf p) (seqLenOf c p) (max (seqLenOf c p / c.steps) 1)).length ∧
      (∀ tr ∈ trs, W.mess tr.1 c.thr = .ok tr.2) ∧
      acc.chunks = trs.map (·.1) ∧ acc.ratios = trs.map (·.2) ∧
      (acc.lazyHard = true → acc.early = maxGaveUpOf c) := by
  obtain ⟨trs, h1, h2, h3, h4, h5⟩ := chunkLoop_trace (probeChunks_ok h).2
  refine ⟨trs, h1, h2, by simpa using h3, by simpa using h4, ?_⟩
  intro hl
  rcases h5 with h6 | ⟨h6, _⟩
  · rw [h6] at hl; cases hl
  · exact h6

theorem probeChunks_ratios {W : World E L} {T : Tables E} {c : Ctx E} {e : E} {p : Prepared} {acc : ChunkAcc}
    (h : probeChunks W T c e p = .ok acc) : ∀ r ∈ acc.ratios, ∃ t, W.mess t c.thr = .ok r := by
  obtain ⟨trs, _, h2, _, h4, _⟩ := probeChunks_trace h
  intro r hr
  rw [h4] at hr
  obtain ⟨tr, htr, rfl⟩ := List.mem_map.mp hr
  exact ⟨tr.1, h2 tr htr⟩

theorem offsets_length (start stop step : Nat) :
    (offsets start stop step).length = (stop - start + step - 1) / step := by
  simp [offsets]

theorem offsets_lt {start stop step : Nat} (hstep : 1 ≤ step) : ∀ o ∈ offsets start stop step, o < stop := by
  intro o ho
  simp only [offsets, List.mem_map, List.mem_range] at ho
  obtain ⟨i, hi, rfl⟩ := ho
  -- `i + 1 ≤ ⌈(stop - start) / step⌉`
  have h := (Nat.le_div_iff_mul_le (by omega)).mp (Nat.succ_le_of_lt hi)
  rw [Nat.add_one_mul] at h
  omega

theorem offsets_single (n : Nat) : offsets 0 n (max n 1) = if n = 0 then [] else [0] := by
  unfold offsets
  by_cases hn : n = 0
  · subst hn; simp
  · have h1 : max n 1 = n := by omega
    have h2 : (n - 0 + n - 1) / n = 1 := Nat.div_eq_of_lt_le (by omega) (by omega)
    rw [h1, h2, if_neg hn]; simp

/-- `(start..stop).step_by(max (stop / steps) 1)` yields at most `2 * steps` offsets -/
theorem offsets_le (start stop steps : Nat) (hs : 1 ≤ steps) :
    (offsets start stop (max (stop / steps) 1)).length ≤ 2 * steps := by
  rw [offsets_length]
  generalize hm : max (stop / steps) 1 = m
  -- `stop < steps * (stop / steps + 1) ≤ steps * m + steps ≤ 2 * (steps * m)`
  have h1 : stop < steps * m + steps :=
    Nat.lt_of_lt_of_le (Nat.lt_mul_div_succ stop hs) (Nat.mul_le_mul_left steps (show stop / steps + 1 ≤ m + 1 by omega))
  have h2 : steps ≤ steps * m := Nat.le_mul_of_pos_right _ (by omega)
  apply Nat.le_of_lt_succ
  apply (Nat.div_lt_iff_lt_mul (by omega)).2
  rw [Nat.succ_mul, Nat.mul_assoc]
  omega

theorem validChunk_some {T : Tables E} {e : E} {ch t : Text} (h : validChunk T e ch = some t) : t = ch := by
  unfold validChunk at h
  split at h
  · cases h
  · cases h; rfl

/-- `is_invalid_chunk` rejects an `ascii` chunk with a character outside ASCII -/
theorem validChunk_ascii {T : Tables E} {ch t : Text} (h : validChunk T T.ascii ch = some t) :
    isAsciiText ch = true := by
  unfold validChunk at h
  split at h
  · cases h
  · simp_all

/-- `steps = 1`: the window covers the whole sequence; for the empty sequence there is no offset -/
theorem probeChunks_nil {W : World E L} {T : Tables E} {c : Ctx E} {e : E} {p : Prepared} {acc : ChunkAcc}
    (hsteps : c.steps = 1) (hstart : startOffOf p = 0) (hlen : seqLenOf c p = 0)
    (h : probeChunks W T c e p = .ok acc) : acc = {} := by
  have h := (probeChunks_ok h).2
  rw [hstart, hsteps, Nat.div_one, offsets_single, if_pos hlen] at h
  cases h; rfl

/-- `steps = 1` and a non-empty sequence: one offset (`offsets_single`), one chunk -/
theorem probeChunks_single {W : World E L} {T : Tables E} {c : Ctx E} {e : E} {p : Prepared} {acc : ChunkAcc}
    {t : Text} (hsteps : c.steps = 1) (hstart : startOffOf p = 0) (hlen : seqLenOf c p ≠ 0)
    (hchunk : chunkAt W T c e p.payload (seqLenOf c p) 0 = .ok (validChunk T e t))
    (h : probeChunks W T c e p = .ok acc) (hl : acc.lazyHard = false) :
    validChunk T e t = some t ∧ ∃ r, W.mess t c.thr = .ok r ∧ acc.chunks = [t] ∧ acc.ratios = [r] := by
  have h := (probeChunks_ok h).2
  rw [hstart, hsteps, Nat.div_one, offsets_single, if_neg hlen] at h
  simp only [chunkLoop, hchunk] at h
  cases hv : validChunk T e t with
  | none => simp only [hv, Except.ok.injEq] at h; subst h; cases hl
  | some ch =>
    obtain rfl := validChunk_some hv
    simp only [hv] at h
    split at h
    · cases h
    · rename_i r hr
      -- at the last offset the loop ends whether or not it gives up
      simp only [ite_self, List.nil_append, Except.ok.injEq] at h
      subst h
      exact ⟨rfl, r, hr, rfl, rfl⟩

theorem probeChunks_len {W : World E L} {T : Tables E} {c : Ctx E} {e : E} {p : Prepared} {acc : ChunkAcc}
    (h : probeChunks W T c e p = .ok acc) : acc.ratios.length ≤ 2 * c.steps ∧ acc.chunks.length ≤ 2 * c.steps := by
  obtain ⟨trs, h1, _, h3, h4, _⟩ := probeChunks_trace h
  have := offsets_le (startOffOf p) (seqLenOf c p) c.steps (Nat.pos_of_ne_zero (probeChunks_ok h).1)
  rw [h3, h4, List.length_map, List.length_map]
  omega

end Charset
