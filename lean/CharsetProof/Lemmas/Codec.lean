/-
  What the names of the dumped tables resolve to (`codecNow`) and how `decodeNow` decodes under a resolved codec.  One kernel
  sweep over the supported list (`supportedCodecsOk`) stands behind `singleByteAreTables` and `supportedModelled`.
-/
import CharsetProof.Model.Concrete
import CharsetProof.Lemmas.Lookup
import CharsetProof.Lemmas.ChunkRetry
namespace Charset

/-- T1 obligation: every supported single-byte name resolves to a table codec, and no such table
    maps a byte to U+FEFF -/
def singleByteAreTablesB : Bool :=
  Gen.supported.all (fun e => Gen.multiByte.contains e ||
    (match codecNow e with | some (.table tbl) => !tbl.contains 0xFEFF | _ => false))

/-- one pass over the supported names for all that is needed of their codecs: a name resolves to a decoder of the model, or
    to nothing (a multi-byte name only: `hz`); a single-byte name resolves to a table without U+FEFF -/
def supportedCodecsOkB : Bool :=
  Gen.supported.all (fun e =>
    match codecNow e with
    | none => Gen.multiByte.contains e
    | some c => c.strict.isSome &&
        (Gen.multiByte.contains e || (match c with | .table tbl => !tbl.contains 0xFEFF | _ => false)))

theorem supportedCodecsOk : supportedCodecsOkB = true := by
  simp only [supportedCodecsOkB, codecNow, lookupName_eq_byLast Gen.labelCodec]
  decide +kernel

theorem singleByteAreTables : singleByteAreTablesB = true :=
  List.all_eq_true.mpr fun e he => by
    have := List.all_eq_true.mp supportedCodecsOk e he
    cases hc : codecNow e with
    | none => simpa [hc] using this
    | some c => cases c <;> simp_all

/-- `worldNow` decodes with `decodeNow`.  Rewriting with these two is cheap; with `change`, or `rfl` here, the unifier
    opens `decodeNow` before `worldNow`. -/
theorem worldNow_decode (o : Oracle) : (worldNow o).decode = decodeNow o false := by rw [worldNow]

theorem worldNow_decodeChunk (o : Oracle) : (worldNow o).decodeChunk = decodeNow o true := by rw [worldNow]

theorem worldNow_target (o : Oracle) {e : Name} {ls : List Name} (h : lookupName Gen.targetLanguages e = some ls) :
    (worldNow o).target e = .ok ls := by
  show (match lookupName Gen.targetLanguages e with | some l => Except.ok l | none => _) = _
  rw [h]

/-- a name whose codec does not resolve can never be reported: its strict decode always fails -/
theorem unresolvable_never_decodes (o : Oracle) (chunk : Bool) {e : Name} (h : codecNow e = none) (x : Bytes) :
    decodeNow o chunk e x = .ok none := by
  simp only [decodeNow, h]

theorem decodeNow_strict {e : Name} {c : Codec} {f : Bytes → Except ErrKind Text} (hc : codecNow e = some c)
    (hs : c.strict = some f) (o : Oracle) (chunk : Bool) (x : Bytes) :
    decodeNow o chunk e x = .ok (decodeStrict f (Gen.multiByte.contains e) chunk x).toOption := by
  simp only [decodeNow, hc, hs]
  cases decodeStrict f (Gen.multiByte.contains e) chunk x <;> rfl

theorem codecNow_table {e : Name} (hs : e ∈ Gen.supported) (hmb : Gen.multiByte.contains e = false) :
    ∃ tbl, codecNow e = some (.table tbl) ∧ tbl.contains 0xFEFF = false := by
  have := List.all_eq_true.mp singleByteAreTables e hs
  simp only [hmb, Bool.false_or] at this
  split at this
  · next tbl hc => exact ⟨tbl, hc, by simpa using this⟩
  · cases this

theorem decodeNow_table {o : Oracle} {chunk : Bool} {e : Name} {tbl : List Nat} {x : Bytes}
    (hc : codecNow e = some (.table tbl)) (hmb : Gen.multiByte.contains e = false) :
    decodeNow o chunk e x = .ok (tableStrict tbl x).toOption := by
  rw [decodeNow_strict hc rfl, hmb, decodeStrict_single]

theorem decodeNow_table_some {o : Oracle} {chunk : Bool} {e : Name} {tbl : List Nat} {x : Bytes} {t : Text}
    (hc : codecNow e = some (.table tbl)) (hmb : Gen.multiByte.contains e = false) :
    decodeNow o chunk e x = .ok (some t) ↔ tableStrict tbl x = .ok t := by
  rw [decodeNow_table hc hmb]
  cases tableStrict tbl x <;> simp [Except.toOption]

/-- T1 obligation: every supported name that resolves to a codec resolves to a modelled one -/
def supportedModelledB : Bool :=
  Gen.supported.all (fun e => match codecNow e with | none => true | some c => c.strict.isSome)

theorem supportedModelled : supportedModelledB = true :=
  List.all_eq_true.mpr fun e he => by
    have := List.all_eq_true.mp supportedCodecsOk e he
    cases hc : codecNow e with
    | none => rfl
    | some c => simp_all

/-- under a supported encoding `decode` never consults the recorded answers `o`: the name resolves to no codec and
    nothing decodes, or to a modelled codec, whose strict decoder answers -/
theorem decodeNow_supported {e : Name} (he : e ∈ Gen.supported) :
    (codecNow e = none ∧ ∀ o chunk x, decodeNow o chunk e x = .ok none) ∨
    ∃ c f, codecNow e = some c ∧ c.strict = some f ∧ ∀ o chunk x, decodeNow o chunk e x =
      .ok (decodeStrict f (Gen.multiByte.contains e) chunk x).toOption := by
  have hm := List.all_eq_true.mp supportedModelled e he
  cases hcod : codecNow e with
  | none => exact .inl ⟨rfl, fun o chunk x => unresolvable_never_decodes o chunk hcod x⟩
  | some c =>
    rw [hcod] at hm
    obtain ⟨f, hs⟩ := Option.isSome_iff_exists.mp hm
    exact .inr ⟨c, f, rfl, hs, decodeNow_strict hcod hs⟩

theorem decodeNow_total_supported (o : Oracle) (chunk : Bool) {e : Name} (he : e ∈ Gen.supported) (x : Bytes) :
    ∃ r, decodeNow o chunk e x = .ok r := by
  obtain ⟨_, h0⟩ | ⟨_, _, _, _, h1⟩ := decodeNow_supported he
  · exact ⟨_, h0 o chunk x⟩
  · exact ⟨_, h1 o chunk x⟩

theorem decodeNow_total_modelled (o : Oracle) (chunk : Bool) (e : Name) (x : Bytes)
    (hne : ∀ id, codecNow e ≠ some (.external id)) : ∃ r, decodeNow o chunk e x = .ok r := by
  cases hc : codecNow e with
  | none => exact ⟨none, unresolvable_never_decodes o chunk hc x⟩
  | some c =>
    cases c with
    | external id => exact absurd hc (hne id)
    | _ => exact ⟨_, decodeNow_strict hc rfl o chunk x⟩

theorem decodeNow_oracle_irrelevant (o o' : Oracle) (chunk : Bool) {e : Name} (he : e ∈ Gen.supported) (x : Bytes) :
    decodeNow o chunk e x = decodeNow o' chunk e x := by
  obtain ⟨_, h0⟩ | ⟨_, _, _, _, h1⟩ := decodeNow_supported he
  · rw [h0, h0]
  · rw [h1, h1]

theorem decodeNow_utf8 (o : Oracle) (x : Bytes) :
    decodeNow o false nUTF8 x = .ok (utf8Strict x).toOption := by
  have hc : codecNow nUTF8 = some .utf8 := by
    have hb : (match codecNow nUTF8 with | some .utf8 => true | _ => false) = true := by decide +kernel
    split at hb
    · next h => exact h
    · cases hb
  rw [decodeNow_strict hc rfl, decodeStrict_whole]

end Charset
