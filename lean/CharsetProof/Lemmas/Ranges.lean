/-
  `CharsetMatch::unicode_ranges()`: sorted, duplicate-free, union of the per-character ranges.
-/
import CharsetProof.Model.Ranges
import CharsetProof.Lemmas.SortPerm
import CharsetProof.Lemmas.SortWinner
namespace Charset
variable {α : Type}

theorem insertionSort_nameLt_sorted (l : List Name) : (insertionSort nameLt l).Pairwise (fun a b => ¬ b < a) := by
  refine (insertionSort_sorted nameLt (fun a b c h1 h2 => ?_) (fun a b h => ?_) l).imp (by simp [nameLt])
  · simp only [nameLt, decide_eq_false_iff_not, List.not_lt] at *
    exact List.le_trans h1 h2
  · simp only [nameLt, decide_eq_true_eq, decide_eq_false_iff_not] at *
    exact List.lt_asymm h

theorem mem_unicodeRangeOf {tbl : List (Name × Nat × Nat)} {c : Nat} {r : Name}
    (h : unicodeRangeOf tbl c = some r) : ∃ row ∈ tbl, row.1 = r ∧ row.2.1 ≤ c ∧ c ≤ row.2.2 := by
  obtain ⟨row, hf, rfl⟩ := Option.map_eq_some_iff.mp h
  have hp := List.find?_some hf
  simp only [decide_eq_true_eq] at hp
  exact ⟨row, List.mem_of_find?_eq_some hf, rfl, hp.1, hp.2⟩

/-- "keep the first occurrence of every element", for any function with the two equations of the model's
    `dedup` and `Coh.dedupNat`: no repeats, same elements -/
theorem dedup_spec [BEq α] [LawfulBEq α] {d : List α → List α} (h0 : d [] = [])
    (h1 : ∀ x xs, d (x :: xs) = x :: (d xs).filter (fun y => y != x)) (l : List α) :
    (d l).Nodup ∧ ∀ a, a ∈ d l ↔ a ∈ l := by
  induction l with
  | nil => simp [h0]
  | cons x xs ih =>
    rw [h1]
    refine ⟨List.nodup_cons.mpr ⟨by simp, ih.1.sublist List.filter_sublist⟩, fun a => ?_⟩
    rw [List.mem_cons, List.mem_cons, List.mem_filter, ih.2, bne_iff_ne]
    by_cases e : a = x <;> simp [e]

theorem mem_dedup (l : List Name) (a : Name) : a ∈ dedup l ↔ a ∈ l := (dedup_spec rfl (fun _ _ => rfl) l).2 a

theorem nodup_dedup (l : List Name) : (dedup l).Nodup := (dedup_spec rfl (fun _ _ => rfl) l).1

/-- **`unicode_ranges()`**: strictly increasing in the string order (hence sorted and duplicate-free)
    and exactly the union of what each character of the text yields on its own -/
theorem unicodeRangesOf_spec (tbl : List (Name × Nat × Nat)) (t : Option Text) :
    (unicodeRangesOf tbl t).Pairwise (fun a b => a < b) ∧
    (unicodeRangesOf tbl t).Nodup ∧
    ∀ r, r ∈ unicodeRangesOf tbl t ↔ ∃ c ∈ t.getD [], unicodeRangeOf tbl c = some r := by
  unfold unicodeRangesOf
  have hperm := insertionSort_perm nameLt (rangeScan tbl (t.getD []))
  have hnd : (rangeScan tbl (t.getD [])).Nodup := by unfold rangeScan; exact nodup_dedup _
  have hnd' : (insertionSort nameLt (rangeScan tbl (t.getD []))).Nodup := hperm.nodup_iff.mpr hnd
  refine ⟨?_, hnd', ?_⟩
  · -- sorted (≤) and duplicate-free gives strictly increasing
    refine ((insertionSort_nameLt_sorted _).and (List.nodup_iff_pairwise_ne.mp hnd')).imp fun ⟨hle, hne⟩ => ?_
    exact (List.le_iff_lt_or_eq.mp (List.not_lt.mp hle)).resolve_right hne
  · intro r
    rw [hperm.mem_iff]
    unfold rangeScan
    rw [mem_dedup, List.mem_filterMap]

end Charset
