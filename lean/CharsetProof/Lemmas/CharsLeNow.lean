/-
  For the current tables: every supported encoding's codec is one of the modelled decoders (kernel-checked), hence
  `decode` produces at most one character per byte for every supported encoding – no decoder is opaque.
-/
import CharsetProof.Lemmas.CharsLe
import CharsetProof.Lemmas.Codec
import CharsetProof.Model.WorldFull
namespace Charset

/-- the hypothesis `hchars` of the theorems over abstract worlds, for the model instance the driver executes -/
theorem hchars_now (o : Oracle) : ∀ e x t, e ∈ tablesNow.supported →
    (worldNow o).decode e x = .ok (some t) → t.length ≤ x.length := by
  intro e x t (he : e ∈ Gen.supported) (h : decodeNow o false e x = .ok (some t))
  obtain ⟨_, h0⟩ | ⟨c, f, _, hs, h1⟩ := decodeNow_supported he
  · rw [h0] at h; cases h
  · rw [h1, decodeStrict_whole] at h
    cases hf : f x with
    | error k => rw [hf] at h; cases h
    | ok t' => rw [hf] at h; cases h; exact codec_strict_le hs x _ hf

/-- `worldFull` has its decoders and its language table from `worldNow`; only `mess` and `coh` differ.  As equations to
    rewrite with: left to itself the unifier compares the two worlds field by field, and opens `decodeNow`, first. -/
theorem worldFull_decode (menv : Md.MdEnv) (cenv : Coh.CohEnv) (o : Oracle) :
    (worldFull menv cenv o).decode = decodeNow o false := by rw [worldFull, worldNow]

theorem worldFull_decodeChunk (menv : Md.MdEnv) (cenv : Coh.CohEnv) (o : Oracle) :
    (worldFull menv cenv o).decodeChunk = decodeNow o true := by rw [worldFull, worldNow]

theorem worldFull_target (menv : Md.MdEnv) (cenv : Coh.CohEnv) (o : Oracle) :
    (worldFull menv cenv o).target = (worldNow o).target := by rw [worldFull]

theorem hchars_full (menv : Md.MdEnv) (cenv : Coh.CohEnv) (o : Oracle) : ∀ e x t, e ∈ tablesNow.supported →
    (worldFull menv cenv o).decode e x = .ok (some t) → t.length ≤ x.length := by
  rw [worldFull_decode, ← worldNow_decode]
  exact hchars_now o

end Charset
