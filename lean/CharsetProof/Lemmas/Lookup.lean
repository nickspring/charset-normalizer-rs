import CharsetProof.Model.Names
namespace Charset

theorem lookupName_nil {β} (n : Name) : lookupName ([] : List (Name × β)) n = none := rfl

theorem lookupName_cons {β} (k : Name) (v : β) (tbl : List (Name × β)) (n : Name) :
    lookupName ((k, v) :: tbl) n = if n = k then some v else lookupName tbl n := by
  unfold lookupName
  by_cases h : n = k
  · simp [h]
  · have : (k == n) = false := by simpa using fun h' => h h'.symm
    simp [this, h]

theorem lookupName_mem {β} {tbl : List (Name × β)} {n : Name} {v : β} (h : lookupName tbl n = some v) :
    (n, v) ∈ tbl := by
  obtain ⟨p, hf, rfl⟩ := Option.map_eq_some_iff.mp h
  obtain rfl : p.1 = n := by simpa using List.find?_some hf
  exact List.mem_of_find?_eq_some hf

/-- The lookup confined to the rows whose name starts with the same character. The kernel walks a table at some 900 heartbeats
    a row, however names are compared. In a sweep that looks many names up in one table, the rows for a first character are a
    closed term, which the kernel computes once and keeps; after a rewrite with `lookupName_eq_byHead tbl` (or `_byLast`, below)
    each lookup walks those alone. (`headD 0` and not `head?`: comparing options would bring `Classical.choice` into every user.) -/
def lookupByHead {β} (tbl : List (Name × β)) : Name → Option β
  | [] => lookupName tbl []
  | h :: t => lookupName (tbl.filter (fun p => p.1.headD 0 == h)) (h :: t)

theorem lookupName_eq_byHead {β} (tbl : List (Name × β)) (n : Name) : lookupName tbl n = lookupByHead tbl n := by
  cases n with
  | nil => rfl
  | cons h t =>
    simp only [lookupByHead, lookupName, List.find?_filter]
    congr 2
    funext p
    -- a row named `h :: t` starts with `h` (spelt out: `by_cases` + `simp` would bring `Classical.choice` into every sweep)
    cases hp : p.1 == h :: t with
    | false => exact (decide_eq_false fun hc => Bool.noConfusion hc.2).symm
    | true => exact (decide_eq_true ⟨by rw [eq_of_beq hp]; exact decide_eq_true rfl, rfl⟩).symm

/-- The lookup confined to the rows that end in the same character: labels share beginnings (`iso-8859-…`, `windows-125…`,
    `cs…`) and differ at the end, so read backwards a comparison fails at once and the rows are spread evenly -/
theorem lookupName_eq_byLast {β} (tbl : List (Name × β)) (n : Name) :
    lookupName tbl n = lookupByHead (tbl.map fun p => (p.1.reverse, p.2)) n.reverse := by
  rw [← lookupName_eq_byHead, lookupName, lookupName, List.find?_map, Option.map_map]
  congr 2
  funext p
  exact (Bool.eq_iff_iff.mpr (by simp)).symm

def containsByHead (l : List Name) : Name → Bool
  | [] => l.contains []
  | h :: t => (l.filter (fun k => k.headD 0 == h)).contains (h :: t)

theorem contains_eq_byHead (l : List Name) (n : Name) : l.contains n = containsByHead l n := by
  cases n with
  | nil => rfl
  | cons h t =>
    rw [containsByHead, Bool.eq_iff_iff, List.contains_iff_mem, List.contains_iff_mem, List.mem_filter]
    exact ⟨fun hm => ⟨hm, decide_eq_true rfl⟩, And.left⟩

/-- The kernel decodes a string literal from its UTF-8 bytes, in time quadratic in its length (0.4M heartbeats for 22
    characters, 13M for 160).  Read as `String.ofList` of its characters, which is how the kernel sees a literal anyway,
    it gives them back at once.  So before a `decide +kernel` over names written as literals: `rw [nameOfStr_ofList]`, one step
    per distinct literal (`rw` unifies `String.ofList ?l` with a literal).  Where `repeat` takes the steps a plain one goes first:
    `repeat` swallows every error, and evaluation would then quietly take the slow path. -/
theorem nameOfStr_ofList (l : List Char) : nameOfStr (String.ofList l) = l.map Char.toNat := by
  rw [nameOfStr, String.toList_ofList]

end Charset
