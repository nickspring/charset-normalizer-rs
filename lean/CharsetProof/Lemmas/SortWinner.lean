/-
  std's insertion sort for an *arbitrary* `is_less`: the output is locally ordered – of two neighbours the
  later one never strictly beats the earlier one (`sortedAdj (strictPart lt)`).  Everything the
  development needs about the order of a sort's output follows from local order of a list alone:
  a winner can only stand first, a loser only last, and under a transitive complement the list is sorted.
-/
import CharsetProof.Model.SortSmall
import CharsetProof.Lemmas.SortPerm
namespace Charset
variable {α : Type}

def Winner (lt : α → α → Bool) (w : α) (l : List α) : Prop :=
  ∀ y ∈ l, y ≠ w → lt w y = true ∧ lt y w = false

def Loser (lt : α → α → Bool) (z : α) (l : List α) : Prop :=
  ∀ y ∈ l, y ≠ z → lt y z = true ∧ lt z y = false

def strictPart (lt : α → α → Bool) (a b : α) : Bool := lt a b && !lt b a

theorem Winner.map {β : Type} (lt : β → β → Bool) (f : α → β) {w : α} {l : List α}
    (h : Winner (fun a b => lt (f a) (f b)) w l) : Winner lt (f w) (l.map f) := by
  intro y hy hne
  obtain ⟨m, hm, rfl⟩ := List.mem_map.mp hy
  exact h m hm (fun e => hne (by rw [e]))

theorem sortedAdj_cons {lt : α → α → Bool} {x : α} {l : List α} :
    sortedAdj lt (x :: l) = true ↔ (∀ y ∈ l.head?, lt y x = false) ∧ sortedAdj lt l = true := by
  cases l <;> simp [sortedAdj]

theorem sortedAdj_concat {lt : α → α → Bool} {x : α} {l : List α} :
    sortedAdj lt (l ++ [x]) = true ↔ (∀ y ∈ l.getLast?, lt x y = false) ∧ sortedAdj lt l = true := by
  induction l with
  | nil => simp [sortedAdj]
  | cons a l ih =>
    rw [List.cons_append, sortedAdj_cons, sortedAdj_cons, ih]
    cases l <;> simp [and_left_comm]

theorem sortedAdj_reverse {lt : α → α → Bool} {l : List α} :
    sortedAdj lt l.reverse = true ↔ sortedAdj (fun a b => lt b a) l = true := by
  induction l with
  | nil => simp [sortedAdj]
  | cons a l ih => rw [List.reverse_cons, sortedAdj_concat, sortedAdj_cons, ih, List.getLast?_reverse]

theorem pairwise_of_sortedAdj {lt : α → α → Bool}
    (htrans : ∀ a b c, lt b a = false → lt c b = false → lt c a = false) {l : List α}
    (h : sortedAdj lt l = true) : l.Pairwise (fun a b => lt b a = false) := by
  induction l with
  | nil => exact .nil
  | cons x r ih =>
    obtain ⟨hx, hr⟩ := sortedAdj_cons.mp h
    have ihr := ih hr
    refine .cons ?_ ihr
    cases r with
    | nil => simp
    | cons y r' =>
      intro z hz
      rcases List.mem_cons.mp hz with rfl | hz'
      · exact hx _ rfl
      · exact htrans _ _ _ (hx y rfl) ((List.pairwise_cons.mp ihr).1 z hz')

theorem head_of_winner {lt : α → α → Bool} {w : α} {l : List α} (h : sortedAdj (strictPart lt) l = true)
    (hw : w ∈ l) (hwin : Winner lt w l) : l.head? = some w := by
  induction l with
  | nil => cases hw
  | cons a r ih =>
    obtain ⟨ha, hr⟩ := sortedAdj_cons.mp h
    by_cases e : a = w
    · rw [e]; rfl
    · -- otherwise `w` heads the tail, and then strictly beats its left neighbour `a`
      have hwr : w ∈ r := (List.mem_cons.mp hw).resolve_left (fun h => e h.symm)
      have := ha w (ih hr hwr (fun y hy => hwin y (List.mem_cons_of_mem _ hy)))
      simp [strictPart, hwin a List.mem_cons_self e] at this

theorem getLast_of_loser {lt : α → α → Bool} {z : α} {l : List α} (h : sortedAdj (strictPart lt) l = true)
    (hz : z ∈ l) (hlos : Loser lt z l) : l.getLast? = some z := by
  -- `Loser` is `Winner` for the converse comparison, and the reversed list is locally ordered for it
  rw [List.getLast?_eq_head?_reverse]
  exact head_of_winner (lt := fun a b => lt b a) (sortedAdj_reverse.mpr h) (List.mem_reverse.mpr hz)
    (fun y hy => hlos y (List.mem_reverse.mp hy))

theorem head?_insertTailRev (lt : α → α → Bool) (x : α) (l : List α) :
    (insertTailRev lt x l).head? = some x ∨ (insertTailRev lt x l).head? = l.head? := by
  cases l with
  | nil => exact .inl rfl
  | cons p ps => simp only [insertTailRev]; split <;> simp

/-- `acc` is the sorted prefix reversed, hence locally ordered for the converse comparison -/
theorem insertTailRev_sortedAdj (lt : α → α → Bool) (x : α) (acc : List α)
    (h : sortedAdj (fun a b => strictPart lt b a) acc = true) :
    sortedAdj (fun a b => strictPart lt b a) (insertTailRev lt x acc) = true := by
  induction acc with
  | nil => rfl
  | cons p ps ih =>
    obtain ⟨hp, hps⟩ := sortedAdj_cons.mp h
    simp only [insertTailRev]
    split
    · rename_i hlt
      refine sortedAdj_cons.mpr ⟨fun y hy => ?_, ih hps⟩
      rcases head?_insertTailRev lt x ps with e | e <;> rw [e] at hy
      · cases hy; simp [strictPart, hlt]
      · exact hp y hy
    · rename_i hlt
      exact sortedAdj_cons.mpr ⟨fun y hy => by cases hy; simp [strictPart, hlt], h⟩

theorem insertionSort_sortedAdj (lt : α → α → Bool) (l : List α) :
    sortedAdj (strictPart lt) (insertionSort lt l) = true := by
  suffices ∀ acc, sortedAdj (fun a b => strictPart lt b a) acc = true →
      sortedAdj (strictPart lt) (insertionSortAux lt acc l) = true from this [] rfl
  induction l with
  | nil => exact fun acc h => sortedAdj_reverse.mpr h
  | cons x xs ih => exact fun acc h => ih _ (insertTailRev_sortedAdj lt x acc h)

theorem insertionSort_winner_first (lt : α → α → Bool) (w : α) (l : List α)
    (hirr : lt w w = false) (hw : w ∈ l) (hwin : Winner lt w l) :
    (insertionSort lt l).head? = some w :=
  have hp := insertionSort_perm lt l
  head_of_winner (insertionSort_sortedAdj lt l) (hp.mem_iff.mpr hw) (fun y hy => hwin y (hp.mem_iff.mp hy))

theorem insertionSort_loser_last (lt : α → α → Bool) (z : α) (l : List α)
    (hz : z ∈ l) (hlos : Loser lt z l) : (insertionSort lt l).getLast? = some z :=
  have hp := insertionSort_perm lt l
  getLast_of_loser (insertionSort_sortedAdj lt l) (hp.mem_iff.mpr hz) (fun y hy => hlos y (hp.mem_iff.mp hy))

theorem insertionSort_sorted (lt : α → α → Bool)
    (htrans : ∀ a b c, lt b a = false → lt c b = false → lt c a = false)
    (hasym : ∀ a b, lt a b = true → lt b a = false) (l : List α) :
    (insertionSort lt l).Pairwise (fun a b => lt b a = false) := by
  have hs : strictPart lt = lt := by
    funext a b
    cases h : lt a b <;> simp [strictPart, h]
    exact hasym a b h
  have h := insertionSort_sortedAdj lt l
  rw [hs] at h
  exact pairwise_of_sortedAdj htrans h

end Charset
