/-
  What the ranking theorems of Props/C08 need about keys.  `sortMatches` (Concrete.lean) answers with std's sort where
  its result passes `rankingOk`, with insertion sort otherwise (`sortMatches_cases`); these lemmas serve the first case.
  "Last" is "first" for the converse comparison (`Loser lt` unfolds to `Winner` of the converse, and `losingKey` is the
  search of `winningKey` run with the converse), so `find_dominant` and `winner_of_key` take an arbitrary comparison of keys.
-/
import CharsetProof.Model.Concrete
import CharsetProof.Lemmas.SortWinner
namespace Charset
variable {E L : Type}

/-- the search of `winningKey` / `losingKey` finds a key that beats every other key: no second key passes
    the test, because it would have to beat the first and be beaten by it -/
theorem find_dominant (lt : Match.Key → Match.Key → Bool) {keys : List Match.Key} {k : Match.Key} (hk : k ∈ keys)
    (hdom : Winner lt k keys) :
    keys.find? (fun k => keys.all (fun k' => k' == k || (lt k k' && !lt k' k))) = some k := by
  cases hf : keys.find? (fun k => keys.all (fun k' => k' == k || (lt k k' && !lt k' k))) with
  | none =>
    have := List.find?_eq_none.mp hf k hk
    simp only [List.all_eq_true, Bool.or_eq_true, beq_iff_eq, Bool.and_eq_true, Bool.not_eq_true'] at this
    exact absurd (fun k' hk' => (Decidable.em (k' = k)).imp_right (hdom k' hk')) this
  | some k₀ =>
    have h₀ := List.find?_some hf
    simp only [List.all_eq_true, Bool.or_eq_true, beq_iff_eq, Bool.and_eq_true, Bool.not_eq_true'] at h₀
    rcases h₀ k hk with e | ⟨c, _⟩
    · rw [e]
    · by_cases e : k₀ = k
      · rw [e]
      · rw [(hdom k₀ (List.mem_of_find?_eq_some hf) e).2] at c; cases c

theorem rankingOk_iff {keys sorted : List Match.Key} : rankingOk keys sorted = true ↔
    (∀ k, winningKey keys = some k → sorted.head? = some k) ∧
    (∀ k, losingKey keys = some k → sorted.getLast? = some k) := by
  unfold rankingOk
  cases winningKey keys <;> cases losingKey keys <;> simp

/-- no other element carries the winner's key: whichever element of the sorted pairs (`o`: the first, the
    last) has that key is the winner -/
theorem winner_of_key {lt : Match.Key → Match.Key → Bool} {l : List (Match E L)} {w : Match E L}
    (hwin : Winner (fun a b : Match E L => lt a.key b.key) w l) {r : List (Match.Key × Match E L)}
    (hr : r.Perm (l.map (fun m => (m.key, m)))) {o : Option (Match.Key × Match E L)} (ho : ∀ p ∈ o, p ∈ r)
    (hk : o.map (·.1) = some w.key) : o.map (·.2) = some w := by
  cases o with
  | none => cases hk
  | some p =>
    obtain ⟨m, hm, rfl⟩ := List.mem_map.mp (hr.mem_iff.mp (ho _ rfl))
    have e : m.key = w.key := Option.some.inj hk
    by_cases hne : m = w
    · exact congrArg some hne
    · -- another element with the winner's key would both beat the winner's key and not beat it
      obtain ⟨h1, h2⟩ : lt w.key m.key = true ∧ lt m.key w.key = false := hwin m hm hne
      rw [e] at h1 h2
      rw [h1] at h2
      cases h2

end Charset
