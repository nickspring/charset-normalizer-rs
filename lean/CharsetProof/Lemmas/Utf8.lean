/-
  UTF-8: after a lead byte the automaton reads a number in base 64, one digit per continuation byte (`Feeds.digits`), and an
  encoded character is such a run (`encode_feeds`, an instance of the invariant `Feeds`); the round trip and the "incomplete"
  verdict on a cut character both follow from the invariant.
-/
import CharsetProof.Model.Codec
namespace Charset

theorem u8Step_ascii {b : Nat} (h : b < 0x80) : u8Step {} b = .emit b := by
  unfold u8Step; simp [h]

theorem u8Step_cont_initial {b : Nat} (h1 : 0x80 ≤ b) (h2 : b ≤ 0xBF) : u8Step {} b = .reject true := by
  unfold u8Step
  simp only [↓reduceIte]
  repeat rw [if_neg (by omega)]

theorem u8Step_lead2 {p : Nat} (h1 : 2 ≤ p) (h2 : p < 32) : u8Step {} (0xC0 + p) = .more { needed := 1, cp := p } := by
  unfold u8Step
  simp only [↓reduceIte]
  rw [if_neg (by omega), if_pos (by omega), show (0xC0 + p) % 32 = p by omega]

theorem u8Step_lead3 {p : Nat} (h : p < 16) :
    u8Step {} (0xE0 + p) = .more { needed := 2, cp := p, lower := if p = 0 then 0xA0 else 0x80,
                                   upper := if p = 13 then 0x9F else 0xBF } := by
  unfold u8Step
  simp only [↓reduceIte]
  rw [if_neg (by omega), if_neg (by omega), show (0xE0 + p) % 16 = p by omega]
  by_cases e0 : p = 0
  · subst e0; rfl
  by_cases ed : p = 13
  · subst ed; rfl
  rw [if_neg (by omega), if_neg (by omega), if_pos (by omega), if_neg e0, if_neg ed]

theorem u8Step_lead4 {p : Nat} (h : p ≤ 4) :
    u8Step {} (0xF0 + p) = .more { needed := 3, cp := p, lower := if p = 0 then 0x90 else 0x80,
                                   upper := if p = 4 then 0x8F else 0xBF } := by
  -- five bytes, `F0..F4`
  obtain rfl | rfl | rfl | rfl | rfl : p = 0 ∨ p = 1 ∨ p = 2 ∨ p = 3 ∨ p = 4 := by omega
  all_goals rfl

theorem u8Step_cont {s : U8State} {d : Nat} (hn : s.needed ≠ 0) (hd : d < 64) (h1 : s.lower ≤ 0x80 + d)
    (h2 : 0x80 + d ≤ s.upper) :
    u8Step s (0x80 + d) =
      if s.needed = 1 then .emit (s.cp * 64 + d) else .more { needed := s.needed - 1, cp := s.cp * 64 + d } := by
  unfold u8Step
  rw [if_neg hn, if_pos ⟨h1, h2⟩, show (0x80 + d) % 64 = d by omega]

/-- from state `s` the bytes `bs` are read without a reject and complete exactly one character, `c`, with the last of
    them; in between the automaton is never back in its initial state -/
inductive Feeds : U8State → Bytes → Nat → Prop
  | last {s b c} : u8Step s b = .emit c → Feeds s [b] c
  | more {s b s' bs c} : u8Step s b = .more s' → s'.needed ≠ 0 → Feeds s' bs c → Feeds s (b :: bs) c

theorem Feeds.decode {s : U8State} {bs : Bytes} {c : Nat} (h : Feeds s bs c) (rest : Bytes) :
    utf8StrictAux s (bs ++ rest) =
      (match utf8StrictAux {} rest with | .ok r => .ok (c :: r) | .error k => .error k) := by
  induction h with
  | last h =>
    simp only [List.cons_append, List.nil_append, utf8StrictAux, h]
    cases utf8StrictAux {} rest <;> rfl
  | more h _ _ ih => simp only [List.cons_append, utf8StrictAux, h, ih]

theorem Feeds.prefix_incomplete {s : U8State} {bs : Bytes} {c : Nat} (h : Feeds s bs c) :
    ∀ j, j < bs.length → (j = 0 → s.needed ≠ 0) → utf8StrictAux s (bs.take j) = .error .incomplete := by
  induction h with
  | last h =>
    intro j hj h0
    have : j = 0 := by simpa using hj
    subst this
    simp [utf8StrictAux, h0 rfl]
  | more h hn _ ih =>
    intro j hj h0
    cases j with
    | zero => simp [utf8StrictAux, h0 rfl]
    | succ j =>
      simp only [List.take_succ_cons, utf8StrictAux, h]
      exact ih j (by simpa using hj) (fun _ => hn)

theorem Feeds.digits {ds : List Nat} {s : U8State} {d : Nat} (hn : s.needed = ds.length + 1) (hd : ∀ x ∈ d :: ds, x < 64)
    (h1 : s.lower ≤ 0x80 + d) (h2 : 0x80 + d ≤ s.upper) :
    Feeds s ((d :: ds).map (0x80 + ·)) ((d :: ds).foldl (· * 64 + ·) s.cp) := by
  induction ds generalizing s d with
  | nil => exact .last ((u8Step_cont (by omega) (hd d (by simp)) h1 h2).trans (if_pos hn))
  | cons e ds ih =>
    have he : 0x80 + e ≤ 0xBF := by have := hd e (by simp); omega
    rw [List.length_cons] at hn
    refine .more ((u8Step_cont (by omega) (hd d (by simp)) h1 h2).trans (if_neg (by omega)))
      (by show s.needed - 1 ≠ 0; omega) ?_
    exact ih (s := { needed := s.needed - 1, cp := s.cp * 64 + d }) (by show s.needed - 1 = _; omega)
      (fun x hx => hd x (List.mem_cons_of_mem _ hx)) (Nat.le_add_right _ _) he

theorem Feeds.two {p d0 c : Nat} (hp2 : 2 ≤ p) (hp : p < 32) (h0 : d0 < 64) (hc : p * 64 + d0 = c) :
    Feeds {} [0xC0 + p, 0x80 + d0] c := by
  subst hc
  refine .more (u8Step_lead2 hp2 hp) (by simp) (Feeds.digits (ds := []) rfl (by simpa using h0) (Nat.le_add_right _ _) ?_)
  show 0x80 + d0 ≤ 0xBF
  omega

theorem Feeds.three {p d1 d0 c : Nat} (hp : p < 16) (h1 : d1 < 64) (h0 : d0 < 64) (hlo : p = 0 → 32 ≤ d1)
    (hsur : p = 13 → d1 < 32) (hc : (p * 64 + d1) * 64 + d0 = c) : Feeds {} [0xE0 + p, 0x80 + d1, 0x80 + d0] c := by
  subst hc
  refine .more (u8Step_lead3 hp) (by simp) (Feeds.digits (ds := [d0]) rfl (by simp [h1, h0]) ?_ ?_)
  -- `d1` lies within the bounds its lead byte has set: `A0..BF` after `E0`, `80..9F` after `ED`
  · dsimp only
    split <;> omega
  · dsimp only
    split <;> omega

theorem Feeds.four {p d2 d1 d0 c : Nat} (hp : p ≤ 4) (h2 : d2 < 64) (h1 : d1 < 64) (h0 : d0 < 64) (hlo : p = 0 → 16 ≤ d2)
    (hmax : p = 4 → d2 < 16) (hc : ((p * 64 + d2) * 64 + d1) * 64 + d0 = c) :
    Feeds {} [0xF0 + p, 0x80 + d2, 0x80 + d1, 0x80 + d0] c := by
  subst hc
  refine .more (u8Step_lead4 hp) (by simp) (Feeds.digits (ds := [d1, d0]) rfl (by simp [h2, h1, h0]) ?_ ?_)
  -- `d2` lies within the bounds its lead byte has set: `90..BF` after `F0`, `80..8F` after `F4`
  · dsimp only
    split <;> omega
  · dsimp only
    split <;> omega

theorem encode_feeds {c : Nat} (hc : isScalar c = true) : Feeds {} (utf8EncodeChar c) c := by
  unfold isScalar at hc
  simp only [Bool.or_eq_true, decide_eq_true_eq, Bool.and_eq_true] at hc
  have h64 : ∀ x : Nat, x % 64 < 64 := fun x => Nat.mod_lt x (by decide)
  unfold utf8EncodeChar
  -- digit by digit: with divisions by 64 alone the side goals are cheaper
  rw [show c / 262144 = c / 64 / 64 / 64 by rw [Nat.div_div_eq_div_mul, Nat.div_div_eq_div_mul],
    show c / 4096 = c / 64 / 64 by rw [Nat.div_div_eq_div_mul]]
  split
  · exact .last (u8Step_ascii ‹_›)
  split
  · exact .two (by omega) (by omega) (h64 _) (by omega)
  split
  · -- no overlong form (`E0` is followed by `A0..BF`) and no surrogate (`ED` by `80..9F`)
    exact .three (by omega) (h64 _) (h64 _) (by omega) (by omega) (by omega)
  · -- no overlong form (`F0` is followed by `90..BF`) and nothing above U+10FFFF (`F4` by `80..8F`)
    exact .four (by omega) (h64 _) (h64 _) (h64 _) (by omega) (by omega) (by omega)

theorem utf8_roundtrip_append (t : Text) (hs : ∀ c ∈ t, isScalar c = true) (rest : Bytes) :
    utf8Strict (utf8Encode t ++ rest) =
      (match utf8Strict rest with | .ok r => .ok (t ++ r) | .error k => .error k) := by
  unfold utf8Strict
  induction t with
  | nil =>
    simp only [utf8Encode, List.flatMap_nil, List.nil_append]
    cases utf8StrictAux {} rest <;> rfl
  | cons c cs ih =>
    have hc := hs c (by simp)
    have hcs : ∀ x ∈ cs, isScalar x = true := fun x hx => hs x (by simp [hx])
    simp only [utf8Encode, List.flatMap_cons, List.append_assoc] at ih ⊢
    rw [(encode_feeds hc).decode, ih hcs]
    cases utf8StrictAux {} rest <;> rfl

theorem utf8_roundtrip (t : Text) (hs : ∀ c ∈ t, isScalar c = true) : utf8Strict (utf8Encode t) = .ok t := by
  simpa [show utf8Strict [] = .ok [] from rfl] using utf8_roundtrip_append t hs []

theorem encodeChar_tail_cont (c : Nat) : ∀ b ∈ (utf8EncodeChar c).drop 1, 0x80 ≤ b ∧ b ≤ 0xBF := by
  -- every byte after the first is `0x80 + x % 64`
  have hcont : ∀ x : Nat, 0x80 ≤ 0x80 + x % 64 ∧ 0x80 + x % 64 ≤ 0xBF := fun x => by omega
  fun_cases utf8EncodeChar c <;>
    simp only [List.drop_succ_cons, List.drop_zero, List.mem_cons, List.not_mem_nil, or_false, false_imp_iff, implies_true,
      forall_eq_or_imp, forall_eq, hcont, and_self]

theorem encodeChar_length (c : Nat) : 1 ≤ (utf8EncodeChar c).length ∧ (utf8EncodeChar c).length ≤ 4 := by
  fun_cases utf8EncodeChar c <;> simp

end Charset
