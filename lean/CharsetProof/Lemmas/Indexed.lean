/-
  Loops over the positions of a list are traversals of the list.  The model writes several of its scans as
  `(List.range n)` with an index lookup per position (as the Rust code does); proofs, and above all the kernel, for
  which every lookup is a walk from the head, are better served by the list itself.
-/
namespace Charset

theorem filterMap_range_getElem? {α β : Type} (l : List α) (a n : Nat) (g : α → Option β) :
    (List.range n).filterMap (fun k => l[a + k]?.bind g) = ((l.drop a).take n).filterMap g := by
  induction n with
  | zero => rfl
  | succ n ih =>
    rw [List.range_succ, List.filterMap_append, ih, List.take_add_one, List.filterMap_append, List.getElem?_drop]
    cases h : l[a + n]? <;> simp [List.filterMap_cons, h]

theorem filterMap_range_get {α : Type} (l : List α) : (List.range l.length).filterMap (fun i => l[i]?) = l := by
  simpa using filterMap_range_getElem? l 0 l.length some

theorem all_range_getD {α : Type} (l : List α) (d : α) (p : Nat → α → Bool) :
    (List.range l.length).all (fun i => p i (l[i]?.getD d)) = l.zipIdx.all (fun xi => p xi.2 xi.1) := by
  rw [List.range_eq_range', ← List.zipIdx_map_snd 0 l, List.all_map, Bool.eq_iff_iff, List.all_eq_true, List.all_eq_true]
  constructor <;> intro h xi hxi <;> simpa [List.mem_zipIdx_iff_getElem?.mp hxi] using h xi hxi

end Charset
