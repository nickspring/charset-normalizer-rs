import CharsetProof.Lemmas.Master
set_option linter.unusedSectionVars false
namespace Charset
variable {E L : Type} [DecidableEq E]

/-- a world whose functions always answer (no missing oracle entry, no fault of their own) -/
structure World.Total (W : World E L) : Prop where
  decode : ∀ e x, ∃ r, W.decode e x = .ok r
  decodeChunk : ∀ e x, ∃ r, W.decodeChunk e x = .ok r
  mess : ∀ t thr, ∃ r, W.mess t thr = .ok r
  coh : ∀ t thr ls, ∃ r, W.coh t thr ls = .ok r
  merge : ∀ xs, ∃ r, W.merge xs = .ok r
  target : ∀ e, ∃ r, W.target e = .ok r

/-- sanity of the constants the slicing arithmetic relies on -/
structure Tables.Sane (T : Tables E) : Prop where
  maxLeBig : T.maxProcessed ≤ T.tooBig
  marksMb : ∀ em ∈ T.marks, T.isMultiByte em.1 = true

/-- what detection on an input of at most `n` bytes needs of its world: answers about the encodings in `S`, and a
    mess ratio for every window of every text those decoders produce from at most `n` bytes.  `World.Total` and
    `World.TotalOn` are the two instances used. -/
structure World.Serves (W : World E L) (S : E → Prop) (n : Nat) : Prop where
  decode : ∀ e, S e → ∀ x, ∃ r, W.decode e x = .ok r
  decodeChunk : ∀ e, S e → ∀ x, ∃ r, W.decodeChunk e x = .ok r
  mess : ∀ e, S e → ∀ x t, x.length ≤ n → W.decode e x = .ok (some t) →
    ∀ i k thr, ∃ r, W.mess ((t.drop i).take k) thr = .ok r
  coh : ∀ t thr ls, ∃ r, W.coh t thr ls = .ok r
  merge : ∀ xs, ∃ r, W.merge xs = .ok r
  target : ∀ e, S e → ∃ r, W.target e = .ok r

theorem World.Total.serves {W : World E L} (hW : W.Total) (S : E → Prop) (n : Nat) : W.Serves S n where
  decode := fun e _ => hW.decode e
  decodeChunk := fun e _ => hW.decodeChunk e
  mess := fun _ _ _ _ _ _ _ _ thr => hW.mess _ thr
  coh := hW.coh
  merge := hW.merge
  target := fun e _ => hW.target e

/-- what the slicing arithmetic needs of a loop context; `from_bytes` builds such a one (`ctxOf_ok`) -/
structure CtxOk (T : Tables E) (c : Ctx E) : Prop where
  steps : 1 ≤ c.steps
  start : ∀ e, startIdxOf c e ≤ c.b.length
  lazy : ∀ e, lazyOf T c e = true → startIdxOf c e = 0 ∧ T.maxProcessed ≤ c.b.length

theorem ctxOf_ok {T : Tables E} (hT : T.Sane) (b : Bytes) (s : Settings) (hs : 1 ≤ s.steps) : CtxOk T (ctxOf T b s) := by
  refine ⟨normWindow_steps_pos hs, fun e => ?_, fun e hl => ?_⟩
  · cases hb : bomHereOf (ctxOf T b s) e with
    | false => rw [startIdxOf_eq_zero hb]; exact Nat.zero_le _
    | true =>
      -- the mark is a prefix of the input
      obtain ⟨mk, hmk⟩ := bomHereOf_iff.mp hb
      rw [startIdx_of_sig hmk]
      exact (List.isPrefixOf_iff_prefix.mp (sigOf_some hmk).2).length_le
  · obtain ⟨hbig, hsb⟩ := lazyOf_ctxOf_iff.mp hl
    -- only multi-byte encodings have a mark, and those are never probed lazily
    have hb := bomHereOf_ctxOf_false hT.marksMb (b := b) (s := s) hsb
    have := hT.maxLeBig
    exact ⟨startIdxOf_eq_zero hb, by show T.maxProcessed ≤ b.length; omega⟩

theorem probePrepare_total {W : World E L} {T : Tables E} {c : Ctx E} {S : E → Prop} {n : Nat} (hW : W.Serves S n)
    (hc : CtxOk T c) (soft : List E) {e : E} (he : S e) : ∃ r, probePrepare W T c soft e = .ok r := by
  unfold probePrepare
  split
  · exact ⟨_, rfl⟩
  · -- the slice is in range: everything after the mark, or (lazily, hence without mark) the first `maxProcessed` bytes
    obtain ⟨sl, hsl⟩ : ∃ sl, sliceF 341 c.b (startIdxOf c e) (endIdxOf T c e) = .ok sl := by
      unfold endIdxOf
      split
      · rename_i hl
        obtain ⟨h0, hm⟩ := hc.lazy e hl
        exact sliceF_total (by omega) hm
      · exact sliceF_total (hc.start e) (Nat.le_refl _)
    obtain ⟨r, hr⟩ := hW.decode e he sl
    simp only [hsl, hr]
    cases r with
    | none => exact ⟨_, rfl⟩
    | some t0 =>
      simp only
      split <;> exact ⟨_, rfl⟩

theorem chunkAt_total {W : World E L} {T : Tables E} {c : Ctx E} {S : E → Prop} {n : Nat} (hW : W.Serves S n)
    {e : E} (he : S e) (hn : c.b.length ≤ n) {payload : Option Text} {seqLen off : Nat}
    (hlazy : payload = none → seqLen = c.b.length)
    (hpay : ∀ t, payload = some t → ∀ i k thr, ∃ r, W.mess ((t.drop i).take k) thr = .ok r) (hoff : off < seqLen) :
    ∃ r, chunkAt W T c e payload seqLen off = .ok r ∧ ∀ t, r = some t → ∃ m, W.mess t c.thr = .ok m := by
  unfold chunkAt
  cases payload with
  | some t =>
    refine ⟨_, rfl, fun t' ht' => ?_⟩
    obtain rfl := validChunk_some ht'
    exact hpay t rfl off c.chunk c.thr
  | none =>
    have hseq := hlazy rfl
    obtain ⟨sl, hsl⟩ := sliceF_total (site := 412) (b := c.b) (i := off) (j := min (off + c.chunk) seqLen)
      (by omega) (by omega)
    obtain ⟨r, hr⟩ := hW.decode e he sl
    simp only [hsl, hr]
    cases r with
    | none => exact ⟨_, rfl, fun t ht => nomatch ht⟩
    | some ch =>
      refine ⟨_, rfl, fun t' ht' => ?_⟩
      obtain rfl := validChunk_some ht'
      simpa using hW.mess e he sl t' (Nat.le_trans (sliceF_length hsl) hn) hr 0 t'.length c.thr

theorem chunkLoop_total {W : World E L} {T : Tables E} {c : Ctx E} {e : E} {payload : Option Text}
    {seqLen maxGaveUp : Nat} {offs : List Nat}
    (hat : ∀ off ∈ offs, ∃ r, chunkAt W T c e payload seqLen off = .ok r ∧ ∀ t, r = some t → ∃ m, W.mess t c.thr = .ok m)
    (acc : ChunkAcc) : ∃ r, chunkLoop W T c e payload seqLen maxGaveUp offs acc = .ok r := by
  induction offs generalizing acc with
  | nil => exact ⟨_, rfl⟩
  | cons off offs ih =>
    obtain ⟨r, hr, hmess⟩ := hat off (by simp)
    simp only [chunkLoop, hr]
    cases r with
    | none => exact ⟨_, rfl⟩
    | some t =>
      obtain ⟨m, hm⟩ := hmess t rfl
      simp only [hm]
      split
      · exact ⟨_, rfl⟩
      · exact ih (fun o ho => hat o (by simp [ho])) _

theorem probeChunks_total {W : World E L} {T : Tables E} {c : Ctx E} {S : E → Prop} {n : Nat} (hW : W.Serves S n)
    (hc : CtxOk T c) {e : E} (he : S e) (hn : c.b.length ≤ n) {soft : List E} {p : Prepared}
    (hp : probePrepare W T c soft e = .ok (.go p)) : ∃ r, probeChunks W T c e p = .ok r := by
  unfold probeChunks divF
  have hne : c.steps ≠ 0 := by have := hc.steps; omega
  simp only [hne, ↓reduceIte]
  refine chunkLoop_total (fun off hoff => chunkAt_total hW he hn ?_ ?_ (offsets_lt (by omega) off hoff)) _
  · exact seqLenOf_none
  · -- a payload is what the decoder made of a slice of the input
    obtain ⟨sl, t0, hsl, hdec, hpay⟩ := (probePrepare_go hp).decoded
    intro t ht
    cases hl : lazyOf T c e with
    | true => rw [hpay, payloadOf_of_lazy hl] at ht; cases ht
    | false =>
      rw [hpay, payloadOf_of_not_lazy hl] at ht; cases ht
      exact hW.mess e he sl _ (Nat.le_trans (sliceF_length hsl) hn) hdec

theorem probeRemainder_total {W : World E L} {T : Tables E} {c : Ctx E} {S : E → Prop} {n : Nat} (hW : W.Serves S n)
    (hc : CtxOk T c) {e : E} (he : S e) {p : Prepared} (hp : p.lazy = lazyOf T c e) (acc : ChunkAcc) :
    ∃ r, probeRemainder W T c e p acc = .ok r := by
  unfold probeRemainder
  split
  · rename_i hcond
    have hl : lazyOf T c e = true := by
      rw [← hp]
      exact (Bool.and_eq_true_iff.mp hcond).2
    obtain ⟨sl, hsl⟩ := sliceF_total (site := 451) (b := c.b) (i := T.maxProcessed) (j := c.b.length)
      (hc.lazy e hl).2 (Nat.le_refl _)
    simp only [hsl]
    obtain ⟨r, hr⟩ := hW.decode e he sl
    simp only [hr]
    cases r <;> exact ⟨_, rfl⟩
  · exact ⟨_, rfl⟩

theorem mkMatch_total {W : World E L} {b : Bytes} {e : E} (h : ∃ r, W.decodeChunk e b = .ok r)
    (chaos : F32) (bom : Bool) (cohs : List (L × F32)) (payload : Option Text) :
    ∃ m, mkMatch W b e chaos bom cohs payload = .ok m := by
  unfold mkMatch
  cases payload with
  | some t => exact ⟨_, rfl⟩
  | none =>
    obtain ⟨r, hr⟩ := h
    rw [hr]; exact ⟨_, rfl⟩

theorem probeSoft_total {W : World E L} {c : Ctx E} {e : E} (h : ∃ r, W.decodeChunk e c.b = .ok r) (p : Prepared)
    (acc : ChunkAcc) : ∃ v, probeSoft W c e p acc = .ok v := by
  unfold probeSoft
  split
  · obtain ⟨m, hm⟩ := mkMatch_total h c.thr false [] p.payload
    simp only [hm]; exact ⟨_, rfl⟩
  · exact ⟨_, rfl⟩

theorem cohAll_total {W : World E L} {thr : F32} {langs : List L} (h : ∀ t, ∃ r, W.coh t thr langs = .ok r)
    (ts : List Text) : ∃ r, cohAll W thr langs ts = .ok r := by
  induction ts with
  | nil => exact ⟨_, rfl⟩
  | cons t ts ih =>
    simp only [cohAll]
    obtain ⟨r, hr⟩ := h t
    rw [hr]
    obtain ⟨rs, hrs⟩ := ih
    rw [hrs]
    exact ⟨_, rfl⟩

theorem probeAccept_total {W : World E L} {S : E → Prop} {n : Nat} (hW : W.Serves S n) {T : Tables E} {c : Ctx E}
    {e : E} (he : S e) {p : Prepared} {acc : ChunkAcc} : ∃ v, probeAccept W T c e p acc = .ok v := by
  unfold probeAccept
  obtain ⟨cdl, hcdl⟩ : ∃ r, cdsOf W T c e acc = .ok r := by
    unfold cdsOf
    split
    · exact ⟨_, rfl⟩
    · obtain ⟨ls, hls⟩ := hW.target e he
      simp only [hls]
      exact cohAll_total (fun t => hW.coh t _ _) _
  obtain ⟨mg, hmg⟩ := hW.merge cdl
  obtain ⟨m, hm⟩ := mkMatch_total (hW.decodeChunk e he c.b) (meanRatio acc.ratios) p.bomHere mg p.payload
  simp only [hcdl, hmg, hm]; exact ⟨_, rfl⟩

theorem probe_total {W : World E L} {T : Tables E} {c : Ctx E} {S : E → Prop} {n : Nat} (hW : W.Serves S n)
    (hc : CtxOk T c) (hn : c.b.length ≤ n) (soft : List E) {e : E} (he : S e) :
    ∃ v, probe W T c soft e = .ok v := by
  unfold probe
  obtain ⟨st1, h1⟩ := probePrepare_total hW hc soft he
  simp only [h1]
  cases st1 with
  | needsBom | hardFail | similarSkip => exact ⟨_, rfl⟩
  | go p =>
    obtain ⟨acc, h2⟩ := probeChunks_total hW hc he hn h1
    obtain ⟨rem, h3⟩ := probeRemainder_total hW hc he (probePrepare_go h1).lazy acc
    simp only [h2, h3]
    cases rem with
    | true => exact ⟨_, rfl⟩
    | false =>
      simp only
      split
      · exact probeSoft_total (hW.decodeChunk e he c.b) p acc
      · exact probeAccept_total hW he

theorem detectLoop_total {W : World E L} {T : Tables E} {sort : Sorter E L} (hperm : ∀ l, (sort l).Perm l)
    {c : Ctx E} (incl excl : List E) {es : List E} (hprobe : ∀ e ∈ es, ∀ soft, ∃ v, probe W T c soft e = .ok v)
    (st : LoopState E L) : ∃ out, detectLoop W T sort c incl excl es st = .ok out := by
  induction es generalizing st with
  | nil => exact ⟨_, rfl⟩
  | cons e es ih =>
    have ih := ih fun x hx => hprobe x (by simp [hx])
    rw [detectLoop]
    split
    · exact ih st
    · obtain ⟨v, hv⟩ := hprobe e (by simp) st.soft
      simp only [hv]
      cases v with
      | accepted m =>
        simp only
        split
        · have hme : m.enc = e := (accepted_facts hv).enc
          obtain ⟨x, hx⟩ := findByCand_append hperm T.tooBig st.results m
          rw [hme] at hx
          simp only [hx]; exact ⟨_, rfl⟩
        · exact ih _
      | _ => exact ih _

theorem fromBytes_total {W : World E L} {T : Tables E} {sort : Sorter E L} (hperm : ∀ l, (sort l).Perm l)
    (hT : T.Sane) (b : Bytes) {S : E → Prop} (hW : W.Serves S b.length) (hS : ∀ e ∈ T.supported, S e)
    (s : Settings) (hs : 1 ≤ s.steps) : ∃ r, fromBytes W T sort b s = .ok r := by
  rcases fromBytes_cases W T sort b s with ⟨n, _, h1⟩ | ⟨n, _, h1⟩ | ⟨incl, excl, _, _, ⟨_, h1⟩ | ⟨_, h1⟩⟩
  · exact ⟨_, h1⟩
  · exact ⟨_, h1⟩
  · exact ⟨_, h1⟩
  · obtain ⟨out, hout⟩ := detectLoop_total hperm incl excl (es := probeOrder T.supported (prioritized T b s.preemptive))
      (fun e he soft => probe_total hW (ctxOf_ok hT b s hs) (Nat.le_refl _) soft (hS e (mem_probeOrder_iff.mp he))) {}
    rw [h1, hout]
    exact ⟨_, rfl⟩

/-- what a concrete world can promise: its decoders and language table answer for the *supported* encodings (the only
    ones the probing loop ever asks about), and its mess detector answers for texts up to a length bound – which every
    text the loop analyses meets, because decoders yield at most one character per byte (`chars`) -/
structure World.TotalOn (W : World E L) (T : Tables E) (n : Nat) : Prop where
  decode : ∀ e ∈ T.supported, ∀ x, ∃ r, W.decode e x = .ok r
  decodeChunk : ∀ e ∈ T.supported, ∀ x, ∃ r, W.decodeChunk e x = .ok r
  chars : ∀ e ∈ T.supported, ∀ x t, W.decode e x = .ok (some t) → t.length ≤ x.length
  mess : ∀ t thr, t.length ≤ n → ∃ r, W.mess t thr = .ok r
  coh : ∀ t thr ls, ∃ r, W.coh t thr ls = .ok r
  merge : ∀ xs, ∃ r, W.merge xs = .ok r
  target : ∀ e ∈ T.supported, ∃ r, W.target e = .ok r

theorem World.TotalOn.serves {W : World E L} {T : Tables E} {n : Nat} (hW : W.TotalOn T n) :
    W.Serves (· ∈ T.supported) n where
  decode := hW.decode
  decodeChunk := hW.decodeChunk
  mess := by
    intro e he x t hx hdec i k thr
    apply hW.mess
    have := hW.chars e he x t hdec
    simp only [List.length_take, List.length_drop]
    omega
  coh := hW.coh
  merge := hW.merge
  target := hW.target

/-- **C02, relative form**: for sane constants, a sorter that permutes and `steps ≥ 1`, the model of `from_bytes` is
    total for a world that is `TotalOn` the input's length -/
theorem fromBytesOn_total {W : World E L} {T : Tables E} {sort : Sorter E L} (hperm : ∀ l, (sort l).Perm l)
    (hT : T.Sane) (b : Bytes) (hW : W.TotalOn T b.length) (s : Settings) (hs : 1 ≤ s.steps) :
    ∃ r, fromBytes W T sort b s = .ok r :=
  fromBytes_total hperm hT b hW.serves (fun _ he => he) s hs

end Charset
