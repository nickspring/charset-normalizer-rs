/-
  Every modelled sort returns a permutation of its input: insertion sort by construction, the index-array ipnsort because
  its result is validated inside the model (`filterMap_get_perm`), hence `sort_unstable` on either path and the container's
  `sortMatches`.
-/
import CharsetProof.Model.SortLarge
import CharsetProof.Model.Concrete
import CharsetProof.Lemmas.Indexed
namespace Charset
variable {α : Type}

theorem insertTailRev_perm (lt : α → α → Bool) (x : α) (l : List α) :
    (insertTailRev lt x l).Perm (x :: l) := by
  induction l with
  | nil => simp [insertTailRev]
  | cons p ps ih =>
    simp only [insertTailRev]
    split
    · exact (List.Perm.cons p ih).trans (List.Perm.swap x p ps)
    · exact List.Perm.refl _

theorem insertionSort_perm (lt : α → α → Bool) (l : List α) : (insertionSort lt l).Perm l := by
  suffices ∀ acc, (insertionSortAux lt acc l).Perm (acc ++ l) from this []
  induction l with
  | nil => intro acc; simp [insertionSortAux]
  | cons x xs ih =>
    intro acc
    refine (ih _).trans (((insertTailRev_perm lt x acc).append_right xs).trans ?_)
    exact List.perm_middle.symm

theorem filterMap_get_perm {l : List α} {idx : List Nat} (h : idx.isPerm (List.range l.length) = true) :
    (idx.filterMap (fun i => l[i]?)).Perm l := by
  have := (List.isPerm_iff.mp h).filterMap (fun i => l[i]?)
  rwa [filterMap_range_get] at this

theorem ipnsort_perm (lt : α → α → Bool) (l : List α) : (ipnsort lt l).Perm l := by
  unfold ipnsort
  simp only
  split
  · exact filterMap_get_perm ‹_›
  · exact .refl _

theorem sortUnstableWith_cases {large : (α → α → Bool) → List α → List α} {lt : α → α → Bool} {l : List α}
    {P : List α → Prop} (h1 : P (insertionSort lt l)) (h2 : P (large lt l)) : P (sortUnstableWith large lt l) := by
  unfold sortUnstableWith; split <;> assumption

theorem sortUnstable_perm (lt : α → α → Bool) (l : List α) : (sortUnstable lt l).Perm l :=
  sortUnstableWith_cases (P := (·.Perm l)) (insertionSort_perm lt l) (ipnsort_perm lt l)

/-- the container's sort, opened once: either std's sort (a permutation of the keyed pairs) passed the ranking check,
    or insertion sort answers -/
theorem sortMatches_cases {E L : Type} {l : List (Match E L)} {P : List (Match E L) → Prop}
    (hstd : ∀ r : List (Match.Key × Match E L), r.Perm (l.map fun m => (m.key, m)) →
      rankingOk (l.map Match.key) (r.map (·.1)) = true → P (r.map (·.2)))
    (hins : P ((insertionSort ltPair (l.map fun m => (m.key, m))).map (·.2))) : P (sortMatches l) := by
  unfold sortMatches
  simp only [List.map_map, Function.comp_def]
  split
  · exact hstd _ (sortUnstable_perm _ _) ‹_›
  · exact hins

theorem sortMatches_perm {E L : Type} (l : List (Match E L)) : (sortMatches l).Perm l :=
  have key : ∀ {r : List (Match.Key × Match E L)}, r.Perm (l.map (fun m => (m.key, m))) → (r.map (·.2)).Perm l :=
    fun h => by simpa [List.map_map, Function.comp_def] using h.map (·.2)
  sortMatches_cases (P := (·.Perm l)) (fun _ hr _ => key hr) (key (insertionSort_perm _ _))

end Charset
