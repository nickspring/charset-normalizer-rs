/-
  merge_coherence_ratios inside the model.  The grouping loop is described by one equation (`mergeGroups_eq`):
  one group per language in order of first appearance (`langsOf`), holding that language's scores in order of
  appearance (`scoresOf`); `mergeModel_eq` is the merge in that form.  Hence the result names exactly the languages of
  the per-chunk lists, each once, and every merged score is a mean of at most one score per list; the sort orders it
  by non-increasing score.  The other insertion-ordered index, `filter_alt_coherence_matches` of `coherence_ratio`,
  has the same keys (`filterAlt_keys`) and holds only entries of its input (`filterAlt_subset`).
-/
import CharsetProof.Model.Cd
import CharsetProof.Lemmas.SortSmall
import CharsetProof.Lemmas.F32
namespace Charset

section keys
variable {κ : Type} [DecidableEq κ]

/-- the keys of an insertion-ordered index after `k` has been recorded -/
def addKey (ks : List κ) (k : κ) : List κ := if k ∈ ks then ks else ks ++ [k]

theorem mem_addKey {ks : List κ} {k a : κ} : a ∈ addKey ks k ↔ a ∈ ks ∨ a = k := by
  unfold addKey
  split
  · next hk => exact ⟨.inl, fun h => h.elim id fun e => e ▸ hk⟩
  · simp

theorem addKey_nodup {ks : List κ} (k : κ) (h : ks.Nodup) : (addKey ks k).Nodup := by
  unfold addKey
  split
  · exact h
  · next hk =>
    refine List.nodup_append.mpr ⟨h, by simp, fun a ha b hb e => hk ?_⟩
    rw [← List.mem_singleton.mp hb, ← e]
    exact ha

theorem addKey_cons (a : κ) (ks : List κ) (k : κ) :
    addKey (a :: ks) k = if k = a then a :: ks else a :: addKey ks k := by
  unfold addKey
  by_cases h : k = a <;> by_cases h' : k ∈ ks <;> simp [h, h']

theorem foldl_addKey (l ks : List κ) (h : ks.Nodup) :
    (l.foldl addKey ks).Nodup ∧ ∀ a, a ∈ l.foldl addKey ks ↔ a ∈ ks ∨ a ∈ l := by
  induction l generalizing ks with
  | nil => simp [h]
  | cons k l ih =>
    obtain ⟨h1, h2⟩ := ih _ (addKey_nodup k h)
    exact ⟨h1, fun a => by rw [List.foldl_cons, h2, mem_addKey, List.mem_cons, or_assoc]⟩

theorem foldl_addKey_fresh (l ks : List κ) (hnd : l.Nodup) (hdis : ∀ a ∈ l, a ∉ ks) :
    l.foldl addKey ks = ks ++ l := by
  induction l generalizing ks with
  | nil => simp
  | cons k l ih =>
    obtain ⟨hk, hl⟩ := List.nodup_cons.mp hnd
    have hdis' : ∀ a ∈ l, a ∉ ks ++ [k] := fun a ha h =>
      (List.mem_append.mp h).elim (hdis a (List.mem_cons_of_mem _ ha)) fun h => hk (List.mem_singleton.mp h ▸ ha)
    rw [List.foldl_cons, addKey, if_neg (hdis k List.mem_cons_self), ih _ hl hdis', List.append_assoc,
      List.singleton_append]

end keys
variable {L : Type} [DecidableEq L]

def scoresOf (l : L) (ps : List (L × F32)) : List F32 := (ps.filter (fun p => p.1 = l)).map (·.2)

def langsOf (ps : List (L × F32)) : List L := (ps.map (·.1)).foldl addKey []

theorem scoresOf_concat (l : L) (ps : List (L × F32)) (p : L × F32) :
    scoresOf l (ps ++ [p]) = if l = p.1 then scoresOf l ps ++ [p.2] else scoresOf l ps := by
  unfold scoresOf
  by_cases h : l = p.1 <;> simp [h, eq_comm]

theorem scoresOf_append (l : L) (ps qs : List (L × F32)) : scoresOf l (ps ++ qs) = scoresOf l ps ++ scoresOf l qs := by
  simp [scoresOf]

theorem mem_scoresOf {l : L} {ps : List (L × F32)} {x : F32} : x ∈ scoresOf l ps ↔ (l, x) ∈ ps := by
  simp [scoresOf]

theorem scoresOf_length_le_one (l : L) {r : List (L × F32)} (hnd : (r.map (·.1)).Nodup) :
    (scoresOf l r).length ≤ 1 := by
  -- the scores of `l` are as many as the occurrences of `l` among the keys
  have h := List.nodup_iff_count.mp hnd l
  rw [List.count_eq_countP, List.countP_map, List.countP_eq_length_filter] at h
  rw [scoresOf, List.length_map]
  exact h

theorem scoresOf_of_nodup {r : List (L × F32)} (hnd : (r.map (·.1)).Nodup) {p : L × F32} (hp : p ∈ r) :
    scoresOf p.1 r = [p.2] := by
  have hm : p.2 ∈ scoresOf p.1 r := mem_scoresOf.mpr hp
  have hl := scoresOf_length_le_one p.1 hnd
  match h : scoresOf p.1 r, hm, hl with
  | [x], hm, _ => rw [List.mem_singleton.mp hm]

/-- one push into an index that holds the scores `f l` for distinct languages `ks` -/
theorem pushScore_map (p : L × F32) (f : L → List F32) (ks : List L) (hnd : ks.Nodup) (hf : p.1 ∉ ks → f p.1 = []) :
    pushScore p (ks.map fun l => (l, f l)) =
      (addKey ks p.1).map fun l => (l, if l = p.1 then f l ++ [p.2] else f l) := by
  induction ks with
  | nil => simp [pushScore, addKey, hf]
  | cons k ks ih =>
    obtain ⟨hk, hks⟩ := List.nodup_cons.mp hnd
    rw [List.map_cons, pushScore, addKey_cons]
    by_cases e : k = p.1
    · -- the languages are distinct: no later group is `p`'s
      rw [if_pos e, if_pos e.symm, List.map_cons, if_pos e]
      congr 1
      exact List.map_congr_left fun l hl => by rw [if_neg (fun e' : l = p.1 => hk (e ▸ e' ▸ hl))]
    · rw [if_neg e, if_neg (fun e' => e e'.symm), List.map_cons, if_neg e,
        ih hks (fun h => hf (fun h' => (List.mem_cons.mp h').elim (fun e' => e e'.symm) h))]

theorem langsOf_concat (qs : List (L × F32)) (p : L × F32) : langsOf (qs ++ [p]) = addKey (langsOf qs) p.1 := by
  simp [langsOf]

theorem langsOf_nodup (ps : List (L × F32)) : (langsOf ps).Nodup := (foldl_addKey _ [] .nil).1

theorem mem_langsOf {ps : List (L × F32)} {l : L} : l ∈ langsOf ps ↔ l ∈ ps.map (·.1) :=
  ((foldl_addKey _ [] .nil).2 l).trans (or_iff_right List.not_mem_nil)

theorem langsOf_of_nodup {ps : List (L × F32)} (h : (ps.map (·.1)).Nodup) : langsOf ps = ps.map (·.1) := by
  rw [langsOf, foldl_addKey_fresh _ [] h (fun _ _ => List.not_mem_nil), List.nil_append]

/-- **what the grouping loop computes**: one group per language, in order of first appearance, with the scores of
    that language in order of appearance -/
theorem mergeGroups_eq (rs : List (List (L × F32))) :
    mergeGroups rs = (langsOf rs.flatten).map fun l => (l, scoresOf l rs.flatten) := by
  suffices ∀ ps qs : List (L × F32),
      ps.foldl (fun idx p => pushScore p idx) ((langsOf qs).map fun l => (l, scoresOf l qs)) =
        (langsOf (qs ++ ps)).map fun l => (l, scoresOf l (qs ++ ps)) from this rs.flatten []
  intro ps
  induction ps with
  | nil => intro qs; simp
  | cons p ps ih =>
    intro qs
    have hfresh : p.1 ∉ langsOf qs → scoresOf p.1 qs = [] := fun h => List.eq_nil_iff_forall_not_mem.mpr fun x hx =>
      h (mem_langsOf.mpr (List.mem_map.mpr ⟨(p.1, x), mem_scoresOf.mp hx, rfl⟩))
    rw [List.foldl_cons, List.append_cons, ← ih, langsOf_concat, pushScore_map p _ _ (langsOf_nodup qs) hfresh]
    simp only [scoresOf_concat]

theorem scoresOf_flatten_length (l : L) {rs : List (List (L × F32))} (hnd : ∀ r ∈ rs, (r.map (·.1)).Nodup) :
    (scoresOf l rs.flatten).length ≤ rs.length := by
  induction rs with
  | nil => exact Nat.le_refl _
  | cons r rs ih =>
    have h1 := scoresOf_length_le_one l (hnd r List.mem_cons_self)
    have h2 := ih fun r hr => hnd r (List.mem_cons_of_mem _ hr)
    rw [List.flatten_cons, scoresOf_append, List.length_append, List.length_cons]
    omega

theorem filterAltStep_keys (index : List (L × F32)) (p : L × F32) :
    (filterAltStep index p).map (·.1) = addKey (index.map (·.1)) p.1 := by
  have hany : index.any (fun q => q.1 = p.1) = true ↔ p.1 ∈ index.map (·.1) := by simp
  unfold filterAltStep addKey
  simp only [hany]
  split
  · rw [List.map_map]
    exact List.map_congr_left fun q _ => by simp only [Function.comp]; split <;> rfl
  · simp

theorem filterAlt_keys (xs : List (L × F32)) : (filterAlt xs).map (·.1) = langsOf xs := by
  unfold filterAlt langsOf
  rw [List.foldl_map]
  exact (List.foldl_hom (List.map (fun q : L × F32 => q.1)) (g₁ := filterAltStep) (g₂ := fun ks p => addKey ks p.1)
    fun idx p => (filterAltStep_keys idx p).symm).symm

theorem filterAltStep_subset (index : List (L × F32)) (p : L × F32) :
    ∀ q ∈ filterAltStep index p, q ∈ index ∨ q = p := by
  unfold filterAltStep
  split
  · intro q hq
    obtain ⟨q', hq', rfl⟩ := List.mem_map.mp hq
    split
    · -- the entry of `p`'s language keeps its score or takes `p`'s: it is itself or `p`
      rename_i e
      split
      · exact .inr (Prod.ext e rfl)
      · exact .inl hq'
    · exact .inl hq'
  · exact fun q hq => (List.mem_append.mp hq).imp_right List.mem_singleton.mp

theorem filterAlt_subset (xs : List (L × F32)) : ∀ q ∈ filterAlt xs, q ∈ xs :=
  List.foldlRecOn (motive := fun index => ∀ q ∈ index, q ∈ xs) xs filterAltStep (fun _ h => nomatch h)
    fun index hi p hp q hq => (filterAltStep_subset index p q hq).elim (hi q) (· ▸ hp)

omit [DecidableEq L] in
theorem sortDesc_perm (l : List (L × F32)) : (sortDesc l).Perm l := sortUnstableSmall_perm _ l

/-- **what `merge_coherence_ratios` computes**: the mean score of every language, in order of first appearance,
    then sorted -/
theorem mergeModel_eq (rs : List (List (L × F32))) :
    mergeModel rs = sortDesc ((langsOf rs.flatten).map fun l => (l, meanScore (scoresOf l rs.flatten))) := by
  rw [mergeModel, mergeGroups_eq, List.map_map]
  rfl

theorem mergeModel_nil : mergeModel ([] : List (List (L × F32))) = [] := rfl

/-- a property of scores that means of at most `rs.length` scores keep holds of every merged score -/
theorem mergeModel_scores (P : F32 → Prop) (rs : List (List (L × F32)))
    (hnd : ∀ r ∈ rs, (r.map (·.1)).Nodup) (hP : ∀ r ∈ rs, ∀ p ∈ r, P p.2)
    (hmean : ∀ scores, (∀ s ∈ scores, P s) → 1 ≤ scores.length → scores.length ≤ rs.length → P (meanScore scores)) :
    ∀ q ∈ mergeModel rs, P q.2 := by
  intro q hq
  rw [mergeModel_eq] at hq
  obtain ⟨l, hl, rfl⟩ := List.mem_map.mp ((sortDesc_perm _).mem_iff.mp hq)
  refine hmean _ (fun x hx => ?_) ?_ (scoresOf_flatten_length l hnd)
  · obtain ⟨r, hr, hp⟩ := List.mem_flatten.mp (mem_scoresOf.mp hx)
    exact hP r hr _ hp
  · -- a listed language has a score
    obtain ⟨p, hp, rfl⟩ := List.mem_map.mp (mem_langsOf.mp hl)
    exact List.length_pos_of_mem (mem_scoresOf.mpr hp)

theorem mergeModel_keys (rs : List (List (L × F32))) : ((mergeModel rs).map (·.1)).Perm (langsOf rs.flatten) := by
  have hp := (sortDesc_perm ((langsOf rs.flatten).map fun l => (l, meanScore (scoresOf l rs.flatten)))).map (·.1)
  rwa [← mergeModel_eq, List.map_map, show ((·.1) ∘ fun l => (l, meanScore (scoresOf l rs.flatten))) = id from rfl,
    List.map_id] at hp

theorem mergeModel_nodup (results : List (List (L × F32))) : ((mergeModel results).map (·.1)).Nodup :=
  (mergeModel_keys results).nodup_iff.mpr (langsOf_nodup _)

theorem mergeModel_mem (results : List (List (L × F32))) (l : L) :
    l ∈ (mergeModel results).map (·.1) ↔ ∃ r ∈ results, l ∈ r.map (·.1) := by
  rw [(mergeModel_keys results).mem_iff, mem_langsOf, List.map_flatten, List.mem_flatten]
  constructor
  · rintro ⟨_, h, hl⟩
    obtain ⟨r, hr, rfl⟩ := List.mem_map.mp h
    exact ⟨r, hr, hl⟩
  · rintro ⟨r, hr, hl⟩
    exact ⟨_, List.mem_map_of_mem hr, hl⟩

omit [DecidableEq L] in
theorem sortDesc_sorted (l : List (L × F32)) : (sortDesc l).Pairwise (fun a b => b.2.key ≤ a.2.key) := by
  -- descending by score is ascending by the negated key
  have hlt : (fun a b : L × F32 => Fl.ocmp b.2 a.2 == .lt) = fun a b => decide (-a.2.key < -b.2.key) :=
    funext fun a => funext fun b => by rw [Bool.eq_iff_iff, Fl.ocmp_lt_iff, decide_eq_true_iff]; omega
  rw [sortDesc, hlt]
  exact (sortUnstableSmall_pairwise (fun p : L × F32 => -p.2.key) l).imp (by omega)

theorem mergeModel_sorted (results : List (List (L × F32))) :
    (mergeModel results).Pairwise (fun a b => b.2.key ≤ a.2.key) := sortDesc_sorted _

end Charset
