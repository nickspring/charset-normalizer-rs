/-
  `|a - b| = |b - a|` for all floats of the model, also infinite ones and NaN: rounding is symmetric under
  negation.  The antisymmetry of the match ordering (`C08_preference_asymm`) rests on it.
-/
import CharsetProof.Model.Entity
import CharsetProof.Lemmas.F32
namespace Charset
namespace Fl
variable {f : Fmt}

theorem ofSigned_neg (m e : Int) : (ofSigned f (-m) e).key = -(ofSigned f m e).key := by
  unfold ofSigned
  rw [Int.natAbs_neg]
  by_cases h0 : m = 0
  · subst h0; simp [roundDy_zero]
  · by_cases hneg : m < 0
    · have h2 : ¬ (-m < 0) := by omega
      simp only [hneg, h2, ↓reduceIte]; omega
    · have h2 : -m < 0 := by omega
      simp only [hneg, h2, ↓reduceIte]

theorem ofSigned_not_nan (m e : Int) : (ofSigned f m e).isNaN = false := by
  unfold ofSigned isNaN
  have := roundDy_le_inf f m.natAbs e
  split <;> simp <;> omega

theorem abs_of_neg_key {x y : Fl f} (hk : x.key = -y.key) (hy : y.isNaN = false) : abs x = abs y := by
  have hx : x.isNaN = false := by
    unfold isNaN at hy ⊢; rw [hk, Int.natAbs_neg]; exact hy
  unfold abs
  simp only [hx, hy, Bool.false_eq_true, ↓reduceIte]
  rw [hk, Int.natAbs_neg]

theorem abs_sub_comm (a b : Fl f) : abs (sub a b) = abs (sub b a) := by
  by_cases hn : a.isNaN = true ∨ b.isNaN = true
  · rw [sub_nan hn, sub_nan hn.symm]
  have ha' : a.isNaN = false := (Bool.not_eq_true _).mp fun h => hn (Or.inl h)
  have hb' : b.isNaN = false := (Bool.not_eq_true _).mp fun h => hn (Or.inr h)
  rw [sub_eq ha' hb', sub_eq hb' ha']
  by_cases hia : a.isInf = true
  · by_cases hib : b.isInf = true
    · rw [if_pos (And.intro hia hib), if_pos (And.intro hib hia)]
      -- both infinite: opposite signs give the same infinity both ways, equal signs NaN both ways
      by_cases h1 : a.key = -b.key
      · rw [if_pos h1, if_pos (by omega : b.key = -a.key)]
        exact abs_of_neg_key h1 hb'
      · rw [if_neg h1, if_neg (by omega : ¬ b.key = -a.key)]
    · -- `a - b = a`, `b - a = -a`
      rw [if_neg (fun h => hib h.2), if_pos hia, if_neg (fun h => hib h.1), if_neg hib, if_pos hia]
      exact (abs_of_neg_key (neg_key ha') ha').symm
  · by_cases hib : b.isInf = true
    · -- `a - b = -b`, `b - a = b`
      rw [if_neg (fun h => hia h.1), if_neg hia, if_pos hib, if_neg (fun h => hia h.2), if_pos hib]
      exact abs_of_neg_key (neg_key hb') hb'
    · -- both finite: the two exact differences are each other's negatives, and so are their roundings
      rw [if_neg (fun h => hia h.1), if_neg hia, if_neg hib, if_neg (fun h => hib h.1), if_neg hib, if_neg hia]
      apply abs_of_neg_key _ (ofSigned_not_nan _ _)
      rw [← ofSigned_neg, Int.min_comm b.toDy.2 a.toDy.2]
      refine congrArg (fun m => (ofSigned f m _).key) ?_
      rw [Int.neg_mul, Int.neg_mul]
      omega

end Fl

/-- `Ord for CharsetMatch`, for all keys – finite, infinite or NaN: the three distance tests `|x − y|` do not depend
    on the order of the operands, so both comparisons take the same branch, and each branch compares one pair of
    numbers -/
theorem cmpKey_swap (a b : Match.Key) : Match.cmpKey b a = (Match.cmpKey a b).swap := by
  unfold Match.cmpKey
  simp only [Fl.abs_sub_comm b.chaos a.chaos, Fl.abs_sub_comm b.coh a.coh, Fl.abs_sub_comm b.mbu a.mbu,
    apply_ite Ordering.swap, ← Fl.ocmp_swap]

theorem ltKey_irrefl (k : Match.Key) : Match.ltKey k k = false := by
  -- whichever pair of numbers the rule compares, it compares a number with itself
  simp only [Match.ltKey, Match.cmpKey, apply_ite (· == Ordering.lt), Fl.ocmp_self_lt, ite_self]

theorem ltKey_asymm (a b : Match.Key) (h : Match.ltKey a b = true) : Match.ltKey b a = false := by
  unfold Match.ltKey at h ⊢
  rw [cmpKey_swap a b, beq_iff_eq.mp h]
  rfl

end Charset
