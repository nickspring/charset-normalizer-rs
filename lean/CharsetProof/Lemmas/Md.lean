/-
  The mess detector never returns a negative number or NaN: every division in `md/plugins.rs` is
  guarded, and the guards are sufficient.  Proved for every `MdEnv` (Unicode tables), every text of
  less than 2^64 - 1 characters, every threshold.
-/
import CharsetProof.Model.MdWorld
import CharsetProof.Lemmas.F32
namespace Charset
namespace Md
open Fl

def B : Nat := 2 ^ 64

theorem ok_scaled {x k : Nat} (hk1 : 1 ≤ k) (hk2 : k < 2 ^ 64) : Ok (Fl.mul (f32 x) (f32 k)) := by
  have hpos : 0 < (f32 k).key := ofNat32_pos k hk1
  have hfin : (f32 k).key < fmt32.infKey := ofNat32_lt_inf k hk2
  -- the factor is neither zero nor infinite, so the product is never `inf * 0`
  exact ok_mul (ok_ofNat x) (ok_ofNat k) (fun _ => Int.ne_of_gt hpos)
    fun h => absurd h (ne_true_of_eq_false (nn_flags ⟨Int.le_of_lt hpos, hfin⟩).2)

/-- the shape of every `ratio`: a value computed under a guard, zero otherwise -/
theorem ok_when {g : Prop} [Decidable g] {x : F32} (h : g → Ok x) : Ok (if g then x else Fl.zero) := by
  split
  · exact h ‹g›
  · exact ok_zero

theorem ok_unless {g : Prop} [Decidable g] {x : F32} (h : ¬g → Ok x) : Ok (if g then Fl.zero else x) := by
  split
  · exact ok_zero
  · exact h ‹¬g›

theorem P1.ratio_ok {s : P1} (h : s.count < 2 ^ 64) : Ok s.ratio :=
  ok_unless fun h0 => ok_when fun _ => ok_div_ofNat32 (ok_ofNat _) (Nat.pos_of_ne_zero h0) h

theorem P2.ratio_ok {s : P2} (h : s.count < 2 ^ 64) : Ok s.ratio :=
  ok_when fun h8 => ok_when fun _ => ok_div_ofNat32 (ok_ofNat _) (Nat.le_trans (by decide) h8) h

theorem P3.ratio_ok {s : P3} (h : s.count < 2 ^ 64) : Ok s.ratio :=
  ok_unless fun h0 => ok_div_ofNat32 (ok_scaled (by decide) (by decide)) (Nat.pos_of_ne_zero h0) h

theorem P4.ratio_ok {s : P4} (h : s.count < 2 ^ 64) : Ok s.ratio :=
  ok_when fun h0 => ok_when fun _ => ok_div_ofNat32 (ok_scaled (by decide) (by decide)) h0 h

theorem P5.ratio_ok {s : P5} (h : s.count < 2 ^ 64) : Ok s.ratio :=
  ok_unless fun h0 => ok_div_ofNat32 (ok_scaled (by decide) (by decide)) (Nat.pos_of_ne_zero h0) h

theorem P7.ratio_ok {s : P7} (h : s.cjk < 2 ^ 64) : Ok s.ratio :=
  ok_unless fun h16 => ok_div_ofNat32 (ok_ofNat _) (Nat.le_trans (by decide) (Nat.le_of_not_lt h16)) h

theorem P8.ratio_ok {s : P8} (h : s.count < 2 ^ 64) : Ok s.ratio :=
  ok_unless fun h0 => ok_div_ofNat32 (ok_ofNat _) (Nat.pos_of_ne_zero h0) h

/-- what keeps `SuperWeirdWordPlugin::ratio` from dividing by zero -/
structure P6.Inv (s : P6) (n : Nat) : Prop where
  words : s.words ≤ s.count
  foreign : 0 < s.foreignLong → 0 < s.count
  size : s.count + s.buffer.length ≤ n

theorem P6.ratio_ok {s : P6} {n : Nat} (hi : s.Inv n) (h : n < 2 ^ 64) : Ok s.ratio :=
  ok_unless fun hc => by
    -- past the guard there are more than ten words or a foreign long word, so some word was counted
    have hpos : 1 ≤ s.count := by
      rw [Bool.and_eq_true, decide_eq_true_eq, decide_eq_true_eq, not_and] at hc
      by_cases hw : s.words ≤ 10
      · exact hi.foreign (Nat.pos_of_ne_zero (hc hw))
      · exact Nat.le_trans (Nat.le_trans (by decide) (Nat.le_of_not_le hw)) hi.words
    exact ok_div_ofNat32 (ok_ofNat _) hpos (Nat.lt_of_le_of_lt (Nat.le_trans (Nat.le_add_right _ _) hi.size) h)

theorem P1.feed_count (s : P1) (c : CharInfo) : (s.feed c).count = s.count + 1 := by
  simp only [P1.feed, P1.bump, apply_ite P1.count, ite_self]

theorem P4.feed_count (env : MdEnv) (s : P4) (c : CharInfo) : (s.feed env c).count = s.count + 1 := by
  cases h : s.last <;> simp only [P4.feed, h, apply_ite P4.count, ite_self]

theorem P5.feed_count (s : P5) (c : CharInfo) : (s.feed c).count = s.count + 1 := by
  cases h : s.last <;> simp only [P5.feed, h, apply_ite P5.count, ite_self]

theorem P7.feed_cjk (s : P7) (c : CharInfo) : (s.feed c).cjk ≤ s.cjk + 1 := by
  fun_cases P7.feed s c
  · exact Nat.le_succ _
  · exact Nat.le_refl _
  · exact Nat.le_succ _

theorem P8.feed_count (s : P8) (c : CharInfo) : (s.feed c).count = s.count + 1 := by
  cases h : s.last <;> simp only [P8.feed, h, apply_ite P8.count, ite_self]

theorem P6.short_fields (s : P6) : s.short.count = s.count ∧ s.short.words = s.words := by
  unfold P6.short
  extract_lets n s'
  have h' : s'.count = s.count ∧ s'.words = s.words := by
    simp only [s', apply_ite P6.count, apply_ite P6.words, ite_self, and_self]
  cases s'.buffer.getLast? <;> simp only [apply_ite P6.count, apply_ite P6.words, h', ite_self, and_self]

theorem P6.long_fields (s : P6) : s.long.count = s.count ∧ s.long.words = s.words := by
  simp only [P6.long, apply_ite P6.count, apply_ite P6.words, ite_self, and_self]

theorem P6.endWord_fields (s : P6) : s.endWord.count = s.count + s.buffer.length ∧
    s.endWord.words = s.words + 1 ∧ s.endWord.buffer = [] := by
  simp only [P6.endWord, apply_ite P6.count, apply_ite P6.words, ite_self, P6.long_fields, P6.short_fields,
    and_self]

theorem P6.feed_inv {s : P6} (c : CharInfo) {n : Nat} (h : s.Inv n) : (s.feed c).Inv (n + 1) := by
  obtain ⟨hw, hf, hs⟩ := h
  have grow : s.count + (s.buffer ++ [c]).length ≤ n + 1 := by
    rw [List.length_append]; exact Nat.succ_le_succ hs
  fun_cases P6.feed s c
  · exact ⟨hw, hf, grow⟩
  · exact ⟨hw, hf, Nat.le_succ_of_le hs⟩
  · next _ hne _ =>
    -- a word ends only on a non-empty buffer, so `count` grows
    have hlen : 0 < s.buffer.length := List.length_pos_iff.mpr fun h => hne (List.isEmpty_iff.mpr h)
    obtain ⟨e1, e2, e3⟩ := P6.endWord_fields s
    refine ⟨?_, fun _ => ?_, ?_⟩
    · rw [e1, e2]; exact Nat.add_le_add hw hlen
    · rw [e1]; exact Nat.add_pos_right _ hlen
    · rw [e1, e3]; exact Nat.le_succ_of_le hs
  · exact ⟨hw, hf, grow⟩
  · exact ⟨hw, hf, Nat.le_succ_of_le hs⟩

/-- all counters that serve as denominators are bounded by the number `n` of characters fed -/
structure Dets.Inv (d : Dets) (n : Nat) : Prop where
  c1 : d.p1.count ≤ n
  c2 : d.p2.count ≤ n
  c3 : d.p3.count ≤ n
  c4 : d.p4.count ≤ n
  c5 : d.p5.count ≤ n
  c6 : d.p6.Inv n
  c7 : d.p7.cjk ≤ n
  c8 : d.p8.count ≤ n

/-- a counter that one step raises by at most one, and only when the plugin is eligible -/
theorem step_le {α : Type} {f : α → Nat} {e : Bool} {s s' : α} {n : Nat} (h : f s ≤ n) (h' : f s' ≤ f s + 1) :
    f (if e then s' else s) ≤ n + 1 := by
  cases e
  · exact Nat.le_succ_of_le h
  · exact Nat.le_trans h' (Nat.succ_le_succ h)

theorem Dets.feed_inv (env : MdEnv) {d : Dets} (c : CharInfo) {n : Nat} (h : d.Inv n) :
    (d.feed env c).Inv (n + 1) where
  c1 := step_le h.c1 (Nat.le_of_eq (P1.feed_count _ c))
  -- `P2.feed` and `P3.feed` count every character (`count := s.count + 1`, by `rfl`)
  c2 := step_le h.c2 (Nat.le_refl _)
  c3 := Nat.succ_le_succ h.c3
  c4 := step_le h.c4 (Nat.le_of_eq (P4.feed_count env _ c))
  c5 := step_le h.c5 (Nat.le_of_eq (P5.feed_count _ c))
  c6 := P6.feed_inv c h.c6
  c7 := Nat.le_trans (P7.feed_cjk _ c) (Nat.succ_le_succ h.c7)
  c8 := Nat.le_trans (Nat.le_of_eq (P8.feed_count _ c)) (Nat.succ_le_succ h.c8)

theorem Dets.sum_ok {d : Dets} {n : Nat} (h : d.Inv n) (hn : n < 2 ^ 64) : Ok d.sum := by
  have lt {x : Nat} (hx : x ≤ n) : x < 2 ^ 64 := Nat.lt_of_le_of_lt hx hn
  simp only [Dets.sum, Dets.ratios, List.foldl]
  exact ok_add (ok_add (ok_add (ok_add (ok_add (ok_add (ok_add (ok_add ok_zero
    (P1.ratio_ok (lt h.c1))) (P2.ratio_ok (lt h.c2))) (P3.ratio_ok (lt h.c3))) (P4.ratio_ok (lt h.c4)))
    (P5.ratio_ok (lt h.c5))) (P6.ratio_ok h.c6 hn)) (P7.ratio_ok (lt h.c7))) (P8.ratio_ok (lt h.c8))

theorem loop_ok {env : MdEnv} {p : Nat} {thr : F32} {cs : List Nat} {d : Dets} {idx n : Nat}
    (h : d.Inv n) (hn : n + cs.length < 2 ^ 64) : Ok (loop env p thr d idx cs) := by
  induction cs generalizing d idx n with
  | nil => exact Dets.sum_ok h hn
  | cons c cs ih =>
    have h' := Dets.feed_inv env (env.info c) h
    rw [List.length_cons, ← Nat.add_assoc, Nat.add_right_comm] at hn
    unfold loop
    extract_lets d'
    split
    · exact Dets.sum_ok h' (Nat.lt_of_le_of_lt (Nat.le_add_right _ _) hn)
    · exact ih h' hn

/-- `ht`: the counters are `u64`, and a newline is fed after the text -/
theorem messRatio_ok (env : MdEnv) (t : Text) (thr : F32) (ht : t.length + 1 < 2 ^ 64) :
    Ok (messRatio env t thr) := by
  have init : ({} : Dets).Inv 0 :=
    ⟨Nat.le_refl _, Nat.le_refl _, Nat.le_refl _, Nat.le_refl _, Nat.le_refl _,
     ⟨Nat.le_refl _, fun h => absurd h (by decide), Nat.le_refl _⟩, Nat.le_refl _, Nat.le_refl _⟩
  exact loop_ok init (by rw [List.length_append, Nat.zero_add]; exact ht)

end Md

theorem messGuarded_of_lt {env : Md.MdEnv} {t : Text} {thr : F32} (h : t.length + 1 < 2 ^ 64) :
    messGuarded env t thr = .ok (Md.messRatio env t thr) := if_pos h

theorem messGuarded_inv {env : Md.MdEnv} {t : Text} {thr r : F32} (h : messGuarded env t thr = .ok r) :
    t.length + 1 < 2 ^ 64 ∧ r = Md.messRatio env t thr := by
  unfold messGuarded at h
  split at h
  · exact ⟨‹_›, (Except.ok.inj h).symm⟩
  · cases h

open Fl in
theorem messGuarded_ok (env : Md.MdEnv) : ∀ t thr r, messGuarded env t thr = .ok r → Ok r := by
  intro t thr r h
  obtain ⟨hlen, rfl⟩ := messGuarded_inv h
  exact Md.messRatio_ok env t thr hlen

end Charset
