/-
  `sort_unstable_by` for small elements (`Model/SortSmall.lean`, the sort `merge_coherence_ratios` uses): a permutation, and
  sorted for any comparison that is `<` on a key – by validation on the modelled path, by `insertionSort_sorted` on the fallback.
-/
import CharsetProof.Model.SortSmall
import CharsetProof.Lemmas.SortPerm
import CharsetProof.Lemmas.SortWinner
namespace Charset
variable {α : Type}

theorem ipnsortSmallRaw_perm (lt : α → α → Bool) (l : List α) : (ipnsortSmallRaw lt l).Perm l := by
  unfold ipnsortSmallRaw
  simp only
  split
  · exact .refl _
  · split
    · exact filterMap_get_perm ‹_›
    · exact .refl _

/-- the sort opened once: insertion sort answers, or the modelled algorithm's result has passed the order check -/
theorem sortUnstableSmall_cases {lt : α → α → Bool} {l : List α} {P : List α → Prop} (hins : P (insertionSort lt l))
    (hraw : sortedAdj lt (ipnsortSmallRaw lt l) = true → P (ipnsortSmallRaw lt l)) : P (sortUnstableSmall lt l) := by
  refine sortUnstableWith_cases hins ?_
  unfold ipnsortSmall
  split
  · exact hraw ‹_›
  · exact hins

theorem sortUnstableSmall_perm (lt : α → α → Bool) (l : List α) : (sortUnstableSmall lt l).Perm l :=
  sortUnstableSmall_cases (P := (·.Perm l)) (insertionSort_perm lt l) fun _ => ipnsortSmallRaw_perm lt l

theorem sortUnstableSmall_sorted (lt : α → α → Bool)
    (htrans : ∀ a b c, lt b a = false → lt c b = false → lt c a = false)
    (hasym : ∀ a b, lt a b = true → lt b a = false) (l : List α) :
    (sortUnstableSmall lt l).Pairwise (fun a b => lt b a = false) :=
  sortUnstableSmall_cases (P := (·.Pairwise _)) (insertionSort_sorted lt htrans hasym l) (pairwise_of_sortedAdj htrans)

theorem sortUnstableSmall_pairwise (f : α → Int) (l : List α) :
    (sortUnstableSmall (fun a b => decide (f a < f b)) l).Pairwise (fun a b => f a ≤ f b) := by
  -- `<` on a key is asymmetric, and its complement `≥` is transitive
  refine (sortUnstableSmall_sorted _ (fun a b c => ?_) (fun a b => ?_) l).imp (by simp)
  · simp only [decide_eq_false_iff_not]
    omega
  · simp only [decide_eq_true_eq, decide_eq_false_iff_not]
    omega

end Charset
