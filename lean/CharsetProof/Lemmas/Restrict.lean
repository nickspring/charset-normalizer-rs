import CharsetProof.Lemmas.Master
namespace Charset
variable {E L : Type} [DecidableEq E]

theorem detectLoop_filter (W : World E L) (T : Tables E) (sort : Sorter E L) (c : Ctx E) (incl excl : List E) :
    ∀ (es : List E) (st : LoopState E L), detectLoop W T sort c incl excl es st =
      detectLoop W T sort c [] [] (es.filter (allowed incl excl)) st := by
  intro es
  induction es with
  | nil => intro st; rfl
  | cons e es ih =>
    intro st
    cases hal : allowed incl excl e with
    | false => simp only [detectLoop, hal, List.filter_cons, Bool.not_false, ↓reduceIte, Bool.false_eq_true]; exact ih st
    | true => simp only [detectLoop, hal, List.filter_cons, allowed_nil, Bool.not_true, Bool.false_eq_true, ↓reduceIte, ih]

/-- the run restricted to one supported encoding `e` that is not excluded is the probe of `e` alone: the match it
    accepts, or the fallback entry it prepares at a soft failure, is the whole result -/
theorem fromBytes_only {W : World E L} {T : Tables E} {sort : Sorter E L} (hperm : ∀ l, (sort l).Perm l)
    (hnd : T.supported.Nodup) {b : Bytes} {s : Settings} {only : List Name} {excl : List E} {e : E}
    (hS : e ∈ T.supported) (honly : canonList T.ianaName only = .ok [e])
    (hexcl : canonList T.ianaName s.excl = .ok excl) (hex : e ∉ excl) (hb : b ≠ [])
    {m0 : Match E L}
    (hp : probe W T (ctxOf T b s) [] e = .ok (.accepted m0) ∨
      probe W T (ctxOf T b s) [] e = .ok (.softFail (some m0))) :
    fromBytes W T sort b { s with incl := only } = .ok (.ok [m0]) := by
  -- the filters leave `e` alone: as a predicate `allowed [e] excl` is `(· == e)`, and the probe order has no repeats
  have hfilter : (probeOrder T.supported (prioritized T b s.preemptive)).filter (allowed [e] excl) = [e] := by
    have hbeq : ∀ y, allowed [e] excl y = (y == e) := fun y => by
      by_cases hy : y = e
      · simp [allowed, hy, hex]
      · simp [allowed, hy]
    rw [List.filter_congr fun y _ => hbeq y, List.filter_beq, (nodup_probeOrder hnd).count,
      if_pos (mem_probeOrder_iff.mpr hS), List.replicate_one]
  rw [fromBytes_eq (s := { s with incl := only }) honly hexcl hb, detectLoop_filter, hfilter, ctxOf_incl_irrel]
  rcases hp with hp | hp
  · have hfind : findByCand [m0] e = some m0 := by simp [findByCand, Match.cands, (accepted_facts hp).enc]
    simp only [detectLoop, allowed_nil, Bool.not_true, Bool.false_eq_true, ↓reduceIte, hp, append_nil hperm, hfind]
    by_cases hx : exitCond (ctxOf T b s) e m0.chaos = true <;> simp [hx, resultOf, finish]
  · simp only [detectLoop, allowed_nil, Bool.not_true, Bool.false_eq_true, ↓reduceIte, hp, resultOf, finish,
      softUpdate_results, List.isEmpty_nil, pickFallback_softUpdate, append_nil hperm]

end Charset
