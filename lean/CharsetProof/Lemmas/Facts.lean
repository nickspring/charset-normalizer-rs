import CharsetProof.Lemmas.Chunks
namespace Charset
variable {E L : Type} [DecidableEq E]

theorem prepareSlice_of_not_lazy {T : Tables E} {c : Ctx E} {e : E} {sl : Bytes} (hl : lazyOf T c e = false)
    (h : sliceF 341 c.b (startIdxOf c e) (endIdxOf T c e) = .ok sl) :
    sl = c.b.drop (startIdxOf c e) ∧ startIdxOf c e ≤ c.b.length := by
  simp only [endIdxOf, hl, Bool.false_eq_true, ↓reduceIte] at h
  exact sliceF_to_end h

/-- how the exposed text of an entry produced by a probe relates to the strict decoder -/
def TextOk (W : World E L) (T : Tables E) (c : Ctx E) (e : E) (text : Option Text) : Prop :=
  (lazyOf T c e = false →
    ∃ t0, W.decode e (c.b.drop (startIdxOf c e)) = .ok (some t0) ∧ text = some t0 ∧ startIdxOf c e ≤ c.b.length) ∧
  (lazyOf T c e = true →
    ∃ t0 r, W.decode e ((c.b.drop (startIdxOf c e)).take (T.maxProcessed - startIdxOf c e)) = .ok (some t0) ∧
      startIdxOf c e ≤ T.maxProcessed ∧ T.maxProcessed ≤ c.b.length ∧
      W.decodeChunk e c.b = .ok r ∧ text = r.map stripFeff)

theorem text_of_prepare {W : World E L} {T : Tables E} {c : Ctx E} {soft : List E} {e : E} {p : Prepared}
    {m : Match E L} {chaos : F32} {bom : Bool} {cohs : List (L × F32)}
    (hp : probePrepare W T c soft e = .ok (.go p))
    (hm : mkMatch W c.b e chaos bom cohs p.payload = .ok m) :
    TextOk W T c e m.text ∧ (lazyOf T c e = false → p.payload = m.text) ∧ (lazyOf T c e = true → p.payload = none) := by
  obtain ⟨sl, t0, hsl, hdec, hpay⟩ := (probePrepare_go hp).decoded
  obtain ⟨h1, h2, hsleq⟩ := sliceF_ok hsl
  obtain ⟨_, _, _, _, _, _, htext, hnone⟩ := mkMatch_ok hm
  have hlazy : lazyOf T c e = true → p.payload = none := fun hl => by rw [hpay, payloadOf_of_lazy hl]
  refine ⟨⟨fun hl => ?_, fun hl => ?_⟩, fun hl => ?_, hlazy⟩
  · obtain ⟨rfl, h1⟩ := prepareSlice_of_not_lazy hl hsl
    exact ⟨t0, hdec, htext t0 (by rw [hpay, payloadOf_of_not_lazy hl]), h1⟩
  · simp only [endIdxOf, hl, ↓reduceIte] at hsleq h1 h2
    subst hsleq
    obtain ⟨r, hr1, hr2⟩ := hnone (hlazy hl)
    exact ⟨t0, r, hdec, h1, h2, hr1, hr2⟩
  · rw [hpay, payloadOf_of_not_lazy hl] at htext ⊢
    exact (htext t0 rfl).symm

def RemainderOk (W : World E L) (T : Tables E) (c : Ctx E) (e : E) : Prop :=
  lazyOf T c e = true → ∃ t2, W.decode e (c.b.drop T.maxProcessed) = .ok (some t2)

theorem remainder_ok {W : World E L} {T : Tables E} {c : Ctx E} {soft : List E} {e : E} {p : Prepared}
    {acc : ChunkAcc} (hp : probePrepare W T c soft e = .ok (.go p))
    (hr : probeRemainder W T c e p acc = .ok false) (hl : acc.lazyHard = false) : RemainderOk W T c e := by
  intro hlazy
  have hpl := (probePrepare_go hp).lazy
  unfold probeRemainder at hr
  rw [hl, hpl, hlazy] at hr
  simp only [Bool.not_false, Bool.and_self, ↓reduceIte] at hr
  split at hr
  · cases hr
  · next sl2 hsl2 =>
    obtain ⟨rfl, _⟩ := sliceF_to_end hsl2
    split at hr
    · cases hr
    · cases hr
    · next t2 ht2 => exact ⟨t2, ht2⟩

structure AcceptedFacts (W : World E L) (T : Tables E) (c : Ctx E) (e : E) (m : Match E L) : Prop where
  raw : m.raw = c.b
  enc : m.enc = e
  subs : m.subs = []
  bom : m.bom = bomHereOf c e
  below : Fl.ge m.chaos c.thr = false
  needsBom : needsBomCond T c e = false
  text : TextOk W T c e m.text
  chaosMean : ∃ ratios, m.chaos = meanRatio ratios ∧ ∀ r ∈ ratios, ∃ t, W.mess t c.thr = .ok r
  cohMerged : ∃ cdl, W.merge cdl = .ok m.cohs
  remainder : RemainderOk W T c e
  /-- the exact chunk analysis behind the chaos value (the conjunct `cdsOf … = cdsOf …` is reflexive and carries nothing;
      `chaosMean` and `cohMerged` above are consequences of this field) -/
  chunksFact : ∃ p acc, p.lazy = lazyOf T c e ∧ p.bomHere = bomHereOf c e ∧ p.startIdx = startIdxOf c e ∧
    (lazyOf T c e = false → p.payload = m.text) ∧ (lazyOf T c e = true → p.payload = none) ∧
    probeChunks W T c e p = .ok acc ∧ m.chaos = meanRatio acc.ratios ∧ acc.lazyHard = false ∧
    cdsOf W T c e acc = (cdsOf W T c e acc) ∧ (∃ cdl, cdsOf W T c e acc = .ok cdl ∧ W.merge cdl = .ok m.cohs)

theorem accepted_facts {W : World E L} {T : Tables E} {c : Ctx E} {soft : List E} {e : E} {m : Match E L}
    (h : probe W T c soft e = .ok (.accepted m)) : AcceptedFacts W T c e m := by
  cases probe_shape h with
  | accepted p acc cdl merged _ hp hc hr hs hcds hmerge hm =>
    obtain ⟨hraw, henc, hchaos, hbom, hcohs, hsubs, _⟩ := mkMatch_ok hm
    have g := probePrepare_go hp
    obtain ⟨htext, hpay1, hpay2⟩ := text_of_prepare hp hm
    simp only [softFailCond, Bool.or_eq_false_iff, decide_eq_false_iff_not, Nat.not_le] at hs
    have hlh : acc.lazyHard = false := by
      -- an invalid chunk sets early := maxGaveUp, which would have been a soft failure
      cases hl : acc.lazyHard with
      | false => rfl
      | true =>
        obtain ⟨_, _, _, _, _, h5⟩ := probeChunks_trace hc
        have := h5 hl
        omega
    rw [← hcohs] at hmerge
    exact {
      raw := hraw, enc := henc, subs := hsubs
      bom := by rw [hbom, g.bomHere]
      below := by rw [hchaos]; exact hs.1
      needsBom := g.needsBom
      text := htext
      chaosMean := ⟨acc.ratios, hchaos, probeChunks_ratios hc⟩
      cohMerged := ⟨cdl, hmerge⟩
      remainder := remainder_ok hp hr hlh
      chunksFact := ⟨p, acc, g.lazy, g.bomHere, g.startIdx, hpay1, hpay2, hc, hchaos, hlh, rfl, cdl, hcds, hmerge⟩ }

structure FallbackFacts (W : World E L) (T : Tables E) (c : Ctx E) (e : E) (fb : Match E L) : Prop where
  raw : fb.raw = c.b
  enc : fb.enc = e
  subs : fb.subs = []
  bom : fb.bom = false
  chaos : fb.chaos = c.thr
  cohs : fb.cohs = []
  enabled : c.fallback = true
  hint : c.prio.contains e = true
  needsBom : needsBomCond T c e = false
  text : TextOk W T c e fb.text
  remainder : RemainderOk W T c e
  /-- the chunk analysis that preceded the soft failure: no chunk was invalid -/
  chunks : ∃ p acc, p.bomHere = bomHereOf c e ∧ (lazyOf T c e = false → p.payload = fb.text) ∧
    (lazyOf T c e = true → p.payload = none) ∧ probeChunks W T c e p = .ok acc ∧ acc.lazyHard = false

theorem fallback_facts {W : World E L} {T : Tables E} {c : Ctx E} {soft : List E} {e : E} {fb : Match E L}
    (h : probe W T c soft e = .ok (.softFail (some fb))) : FallbackFacts W T c e fb := by
  cases probe_shape h with
  | fallback p acc _ hp hc hr hs hcond hm =>
    obtain ⟨hraw, henc, hchaos, hbom, hcohs, hsubs, _⟩ := mkMatch_ok hm
    have g := probePrepare_go hp
    obtain ⟨htext, hpay1, hpay2⟩ := text_of_prepare hp hm
    simp only [fallbackCond, Bool.and_eq_true] at hcond
    have hlh : acc.lazyHard = false := by simpa using hcond.1.2
    exact {
      raw := hraw, enc := henc, subs := hsubs, bom := hbom, chaos := hchaos, cohs := hcohs
      enabled := hcond.1.1
      hint := hcond.2
      needsBom := g.needsBom
      text := htext
      remainder := remainder_ok hp hr hlh
      chunks := ⟨p, acc, g.bomHere, hpay1, hpay2, hc, hlh⟩ }

end Charset
