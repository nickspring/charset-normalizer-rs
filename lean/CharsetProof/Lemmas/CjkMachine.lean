/-
  The multi-byte legacy decoders as one table of machines. `Cjk.strictOf` and `Cjk.eventsOf` are the two readings of that
  table, and every step function in it consumes the byte it is given and emits at most one character per byte consumed;
  what is proved about all these decoders is proved about a machine with that property.
-/
import CharsetProof.Model.Cjk
import CharsetProof.Lemmas.Lookup
namespace Charset
namespace Cjk

/-- what a step may answer when `n` bytes follow the byte it was given: at most those `n` bytes are left, and no more
    characters come out than bytes went in -/
def Within {σ : Type} (n : Nat) : Except ErrKind (List Nat × σ × Bytes) → Prop
  | .ok (cs, _, rest') => rest'.length ≤ n ∧ cs.length + rest'.length ≤ n + 1
  | .error _ => True

@[simp] theorem within_ok {σ : Type} {n : Nat} {cs : List Nat} {s : σ} {r : Bytes} :
    Within n (.ok (cs, s, r)) ↔ r.length ≤ n ∧ cs.length + r.length ≤ n + 1 := Iff.rfl

@[simp] theorem within_error {σ : Type} {n : Nat} {k : ErrKind} : Within (σ := σ) n (.error k) := trivial

theorem Within.mono {σ : Type} {n m : Nat} {r : Except ErrKind (List Nat × σ × Bytes)} (h : Within n r) (hnm : n ≤ m) :
    Within m r := by
  cases r with
  | error k => trivial
  | ok v => exact ⟨Nat.le_trans h.1 hnm, by have := h.2; omega⟩

def StepGood {σ : Type} (step : Step σ) : Prop := ∀ s b rest, Within rest.length (step s b rest)

theorem StepGood.of_ok {σ : Type} {step : Step σ} (hs : StepGood step) {s b rest cs s' rest'}
    (h : step s b rest = .ok (cs, s', rest')) : rest'.length ≤ rest.length ∧ cs.length + rest'.length ≤ rest.length + 1 :=
  within_ok.mp (h ▸ hs s b rest)

theorem eucKrStep_good (tb : Array Nat) : StepGood (eucKrStep tb) := by
  intro s b rest
  fun_cases eucKrStep tb s b rest <;> simp <;> omega

theorem big5Step_good (tb : Array Nat) : StepGood (big5Step tb) := by
  intro s b rest
  fun_cases big5Step tb s b rest <;> simp <;> omega

theorem gbStep_good (tb : Array Nat) (rg : List (Nat × Nat)) : StepGood (gbStep tb rg) := by
  have hfour : ∀ b1 b2 r, Within r.length (gbFour rg b1 b2 r) := by
    intro b1 b2 r; fun_cases gbFour rg b1 b2 r <;> simp <;> omega
  intro s b rest
  fun_cases gbStep tb rg s b rest <;> simp [(hfour _ _ _).mono] <;> omega

theorem eucJpStep_good (a c : Array Nat) : StepGood (eucJpStep a c) := by
  have hpair : ∀ tb lead r, Within r.length (eucJpPair tb lead r) := by
    intro tb lead r; fun_cases eucJpPair tb lead r <;> simp <;> omega
  intro s b rest
  fun_cases eucJpStep a c s b rest <;> simp [(hpair _ _ _).mono] <;> omega

theorem sjisStep_good (a : Array Nat) : StepGood (sjisStep a) := by
  intro s b rest
  fun_cases sjisStep a s b rest <;> simp <;> omega

theorem jpStep_good (a c : Array Nat) : StepGood (jpStep a c) := by
  have h24 : ∀ r, Within r.length (jpEscape24 r) := by
    intro r; fun_cases jpEscape24 r <;> simp <;> omega
  have h28 : ∀ r, Within r.length (jpEscape28 r) := by
    intro r; fun_cases jpEscape28 r <;> simp <;> omega
  have hesc : ∀ r, Within r.length (jpEscape r) := by
    intro r; fun_cases jpEscape r <;> simp [(h24 _).mono, (h28 _).mono]
  have htwo : ∀ tb st b r, Within r.length (jpTwo tb st b r) := by
    intro tb st b r; fun_cases jpTwo tb st b r <;> simp <;> omega
  intro s b rest
  fun_cases jpStep a c s b rest <;> simp [hesc, htwo] <;> omega

/-- a decoder of the family: a step function that keeps within its bounds, its initial state, and what the lossy modes
    add to it -/
structure Machine where
  σ : Type
  step : Step σ
  s0 : σ
  einfo : ErrInfo σ
  fin : σ → Nat → Bytes → Nat
  good : StepGood step

def Machine.strict (m : Machine) : Bytes → Except ErrKind Text := decodeWith m.step m.s0
def Machine.events (m : Machine) : Bytes → List (Option Nat) := eventsWith m.step m.einfo m.fin m.s0

def gbMachine : Machine :=
  ⟨Unit, gbStep gb18030Tbl Gen.gb18030Ranges, (), fun _ _ _ => (1, ()), noRefeed, gbStep_good _ _⟩

def machines : List (Name × Machine) :=
  [([119,105,110,100,111,119,115,45,57,52,57],   -- windows-949
      ⟨Unit, eucKrStep eucKrTbl, (), fun _ b r => (pairErr b r, ()), noRefeed, eucKrStep_good _⟩),
   ([98,105,103,53,45,50,48,48,51],   -- big5-2003
      ⟨Unit, big5Step big5Tbl, (), fun _ b r => (pairErr b r, ()), noRefeed, big5Step_good _⟩),
   ([103,98,49,56,48,51,48], gbMachine),   -- gb18030
   ([103,98,107], gbMachine),   -- gbk (same decoder)
   ([101,117,99,45,106,112],   -- euc-jp
      ⟨Unit, eucJpStep jis0208Tbl jis0212Tbl, (), fun _ b r => (eucJpErr b r, ()), noRefeed, eucJpStep_good _ _⟩),
   ([119,105,110,100,111,119,115,45,51,49,106],   -- windows-31j
      ⟨Unit, sjisStep jis0208Tbl, (), fun _ _ _ => (1, ()), noRefeed, sjisStep_good _⟩),
   ([105,115,111,45,50,48,50,50,45,106,112],   -- iso-2022-jp
      ⟨JpState, jpStep jis0208Tbl jis0212Tbl, .ascii, jpErr, jpFin, jpStep_good _ _⟩)]

/-- `strictOf` and `eventsOf` walk the same list of ids; these two equations are the only place where that list is gone
    through -/
theorem strictOf_eq (id : Name) : strictOf id = (lookupName machines id).map Machine.strict := by
  simp only [machines, lookupName_cons, lookupName_nil, apply_ite (Option.map Machine.strict), Option.map_some,
    Option.map_none]
  rfl

theorem eventsOf_eq (id : Name) : eventsOf id = (lookupName machines id).map Machine.events := by
  have hor : ∀ {α} (a b : Prop) [Decidable a] [Decidable b] (x y : α),
      (if a ∨ b then x else y) = if a then x else if b then x else y := by
    intro α a b _ _ x y; by_cases a <;> by_cases b <;> simp [*]
  simp only [machines, lookupName_cons, lookupName_nil, apply_ite (Option.map Machine.events), Option.map_some,
    Option.map_none]
  unfold eventsOf
  rw [hor]
  rfl

theorem strictOf_machine {id : Name} {f : Bytes → Except ErrKind Text} (h : strictOf id = some f) :
    ∃ m, lookupName machines id = some m ∧ f = m.strict := by
  rw [strictOf_eq] at h
  obtain ⟨m, hm, rfl⟩ := Option.map_eq_some_iff.mp h
  exact ⟨m, hm, rfl⟩

theorem strictOf_nil {id : Name} {f : Bytes → Except ErrKind Text} (h : strictOf id = some f) : f [] = .ok [] := by
  obtain ⟨m, _, rfl⟩ := strictOf_machine h
  rfl

end Cjk
end Charset
