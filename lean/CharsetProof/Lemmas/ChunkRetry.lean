/-
  The chunk-mode retry loop of `utils::decode`, for an arbitrary strict decoder: one round at a time, and what it returns on
  an input whose ends are cut (the general form of the UTF-8 window theorem of C17).
-/
import CharsetProof.Model.Decode
namespace Charset

variable {strict : Bytes → Except ErrKind Text} {input : Bytes}

theorem decodeStrict_whole (isMb : Bool) : decodeStrict strict isMb false input = strict input := by
  simp [decodeStrict]

theorem decodeStrict_single (isChunk : Bool) : decodeStrict strict false isChunk input = strict input := by
  simp [decodeStrict]

theorem decodeStrict_chunk : decodeStrict strict true true input = chunkRetry strict input 16 0 input.length := by
  simp [decodeStrict]

theorem chunkRetry_ok {fuel b e : Nat} {t : Text} (h : strict ((input.drop b).take (e - b)) = .ok t) :
    chunkRetry strict input fuel b e = .ok t := by
  cases fuel <;> simp [chunkRetry, h]

theorem chunkRetry_invalid {fuel b e : Nat} (h : strict ((input.drop b).take (e - b)) = .error .invalid)
    (hgo : b + 1 < e ∧ b < 3 ∧ input.length - e ≤ 3) :
    chunkRetry strict input (fuel + 1) b e = chunkRetry strict input fuel (b + 1) e := by
  have : ¬ (e - (b + 1) < 1 ∨ 3 < b + 1 ∨ 3 < input.length - e) := by omega
  simp only [chunkRetry, h, reduceCtorEq, ↓reduceIte, this]

theorem chunkRetry_incomplete {fuel b e : Nat} (h : strict ((input.drop b).take (e - b)) = .error .incomplete)
    (hgo : b + 1 < e ∧ b ≤ 3 ∧ input.length - (e - 1) ≤ 3) :
    chunkRetry strict input (fuel + 1) b e = chunkRetry strict input fuel b (e - 1) := by
  have : ¬ (e - 1 - b < 1 ∨ 3 < b ∨ 3 < input.length - (e - 1)) := by omega
  simp only [chunkRetry, h, reduceCtorEq, ↓reduceIte, this]

/-- **what chunk mode returns on a cut input** `T ++ M ++ H`: if the input is rejected as invalid from every offset inside
    `T`, and `M` decodes but is incomplete with any non-empty part of `H` after it, then chunk mode returns the decode of
    `M`. At most 3 bytes are given up at each end. -/
theorem decodeStrict_window {T M H : Bytes} {t : Text} (hT : T.length ≤ 3) (hH : H.length ≤ 3) (hM : M ≠ [])
    (hfront : ∀ i, i < T.length → strict (T.drop i ++ M ++ H) = .error .invalid)
    (hback : ∀ j, 0 < j → j ≤ H.length → strict (M ++ H.take j) = .error .incomplete)
    (hok : strict M = .ok t) :
    decodeStrict strict true true (T ++ M ++ H) = .ok t := by
  have hMl := List.length_pos_iff.mpr hM
  have hlen : (T ++ M ++ H).length = T.length + M.length + H.length := by simp only [List.length_append]
  -- the slice the loop tries when `i` bytes of `T` are given up at the front and all but `j` bytes of `H` at the end
  have hslice : ∀ i j, i ≤ T.length →
      ((T ++ M ++ H).drop i).take (T.length + M.length + j - i) = T.drop i ++ M ++ H.take j := fun i j hi => by
    rw [List.append_assoc, List.drop_append_of_le_length hi,
      show T.length + M.length + j - i = (T.drop i).length + (M.length + j) by rw [List.length_drop]; omega,
      List.take_length_add_append, List.take_length_add_append, List.append_assoc]
  -- the front moves first, with the end in place (`j = H.length` while `i < T.length`); then the end moves back to `M`
  have hloop : ∀ fuel i j, i ≤ T.length → j ≤ H.length → (i < T.length → j = H.length) → T.length - i + j < fuel →
      chunkRetry strict (T ++ M ++ H) fuel i (T.length + M.length + j) = .ok t := by
    intro fuel
    induction fuel with
    | zero => intro _ _ _ _ _ hf; exact absurd hf (Nat.not_lt_zero _)
    | succ fuel ih =>
      intro i j hi hj hij hf
      by_cases hiT : i < T.length
      · obtain rfl := hij hiT
        have := hfront i hiT
        rw [← List.take_length (l := H), ← hslice _ _ hi] at this
        rw [chunkRetry_invalid this (by omega)]
        exact ih _ _ hiT (Nat.le_refl _) (fun _ => rfl) (by omega)
      · obtain rfl : i = T.length := by omega
        cases j with
        | zero =>
          apply chunkRetry_ok
          rw [hslice _ _ hi, List.drop_length, List.take_zero, List.nil_append, List.append_nil, hok]
        | succ j =>
          have := hback (j + 1) (by omega) hj
          rw [← List.nil_append M, ← List.drop_length (l := T), ← hslice _ _ hi] at this
          rw [chunkRetry_incomplete this (by omega)]
          exact ih _ j hi (by omega) (fun h => absurd h hiT) (by omega)
  rw [decodeStrict_chunk, hlen]
  exact hloop 16 0 H.length (Nat.zero_le _) (Nat.le_refl _) (fun _ => rfl) (by omega)

end Charset
