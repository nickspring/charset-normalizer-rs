/-
  Every modelled strict decoder produces at most one character per input byte – for the multi-byte legacy
  decoders by one generic argument over their step functions (a step emits no more characters than it consumes
  bytes), for every index table whatsoever.  The other fact that holds of all of them by the same case split: the empty
  input decodes to the empty text (`codec_strict_nil`).
-/
import CharsetProof.Model.Decode
import CharsetProof.Lemmas.CjkMachine
import CharsetProof.Lemmas.Table
namespace Charset

def CharsLe (f : Bytes → Except ErrKind Text) : Prop := ∀ x t, f x = .ok t → t.length ≤ x.length

namespace Cjk

theorem run_le {σ : Type} {step : Step σ} (hs : StepGood step) (fuel : Nat) (s : σ) (x : Bytes) :
    ∀ t, run step fuel s x = .ok t → t.length ≤ x.length := by
  fun_induction run step fuel s x with
  | case1 | case3 | case4 => nofun
  | case2 => rintro _ ⟨⟩; exact Nat.le_refl _
  | case5 _ _ _ _ cs _ _ hst t' ht' ih =>
    -- a step that answered `cs`, then the rest of the run
    rintro _ ⟨⟩
    have := (hs.of_ok hst).2
    have := ih t' ht'
    rw [List.length_append, List.length_cons]
    omega

theorem Machine.strict_le (m : Machine) : CharsLe m.strict :=
  fun x t h => run_le m.good _ m.s0 x t h

theorem strictOf_le {id : Name} {f : Bytes → Except ErrKind Text} (h : strictOf id = some f) : CharsLe f := by
  obtain ⟨m, _, rfl⟩ := strictOf_machine h
  exact m.strict_le

end Cjk

theorem utf8StrictAux_le (s : U8State) : CharsLe (utf8StrictAux s) := by
  intro x
  fun_induction utf8StrictAux s x with
  | case1 => rintro _ ⟨⟩; exact Nat.le_refl _
  | case2 | case3 | case5 => nofun
  -- a byte inside a sequence, and a byte that completes a character
  | case4 _ _ _ _ _ ih => exact fun t h => Nat.le_succ_of_le (ih t h)
  | case6 _ _ _ _ _ t' ht' ih => rintro _ ⟨⟩; exact Nat.succ_le_succ (ih t' ht')

theorem utf16FromUnits_le (d : Bool) (us : List Nat) : ∀ t, utf16FromUnits d us = .ok t → t.length ≤ us.length := by
  fun_induction utf16FromUnits d us with
  | case1 | case3 | case4 | case6 | case7 | case8 => nofun
  | case2 => rintro _ ⟨⟩; exact Nat.le_refl _
  | case5 _ _ _ _ _ t' ht' ih =>
    -- a surrogate pair: two units, one character
    rintro _ ⟨⟩
    exact Nat.succ_le_succ (Nat.le_succ_of_le (ih t' ht'))
  | case9 _ _ _ _ t' ht' ih => rintro _ ⟨⟩; exact Nat.succ_le_succ (ih t' ht')

theorem utf16Units_le (le : Bool) (x : Bytes) : 2 * (utf16Units le x).1.length ≤ x.length := by
  fun_induction utf16Units le x
  · simp
  · simp
  · rename_i r ih; simp only [List.length_cons, r] at ih ⊢; omega

theorem codec_strict_le {c : Codec} {f : Bytes → Except ErrKind Text} (h : c.strict = some f) : CharsLe f := by
  cases c with
  | table tbl => cases h; exact fun x t h => Nat.le_of_eq (tableStrict_length tbl x t h)
  | utf8 => cases h; exact utf8StrictAux_le {}
  | utf16 le =>
    cases h
    intro x t h
    have h1 := utf16FromUnits_le _ _ t h
    have h2 := utf16Units_le le x
    omega
  | external id => exact Cjk.strictOf_le h

theorem codec_strict_nil {c : Codec} {f : Bytes → Except ErrKind Text} (h : c.strict = some f) : f [] = .ok [] := by
  cases c with
  | table tbl => cases h; rfl
  | utf8 => cases h; rfl
  | utf16 le => cases h; rfl
  | external id => exact Cjk.strictOf_nil h

end Charset
