/-
  The cache of `Model/Memo.lean`: a lookup answers with an entry of the cache, and `CacheOk` (every cached value is what the
  body computes for its key) holds of the empty cache and survives an insertion followed by any eviction – which only
  drops entries.  Shared by the sequential model (Props/C11) and both interleaving models (Props/C12, C12Nested).
-/
import CharsetProof.Model.Memo
namespace Charset
variable {K V : Type}

theorem cacheGet_some [DecidableEq K] {c : CacheEntries K V} {k : K} {v : V} (h : cacheGet c k = some v) : (k, v) ∈ c := by
  -- spelt out: `Option.map_eq_some_iff` would do it in a line and bring `Quot.sound` into `C11_history_independent`
  unfold cacheGet at h
  cases hf : c.find? (fun p => p.1 == k) with
  | none => rw [hf] at h; cases h
  | some p =>
    rw [hf] at h
    cases h
    have hp := List.find?_some hf
    exact eq_of_beq hp ▸ List.mem_of_find?_eq_some hf

theorem CacheOk.get [DecidableEq K] {f : K → V} {c : CacheEntries K V} (h : CacheOk f c) {k : K} {v : V}
    (hg : cacheGet c k = some v) : v = f k :=
  h (k, v) (cacheGet_some hg)

theorem CacheOk.insert {f : K → V} {c : CacheEntries K V} (h : CacheOk f c) (ev : Evict K V) {k : K} {v : V}
    (hv : v = f k) : CacheOk f (ev.run ((k, v) :: c)) := by
  intro p hp
  rcases List.mem_cons.mp (ev.sub _ p hp) with rfl | hin
  · exact hv
  · exact h p hin

theorem CacheOk.nil (f : K → V) : CacheOk f ([] : CacheEntries K V) :=
  fun _ hp => nomatch hp

end Charset
