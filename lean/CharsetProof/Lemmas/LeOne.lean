/-
  Upper bound 1 for everything the coherence detector reports: jaro (f64), its narrowing to f32, the
  scores of coherence_ratio, the means of merge_coherence_ratios.
-/
import CharsetProof.Lemmas.F32
import CharsetProof.Lemmas.Coh
namespace Charset
open Fl

def falses (l : List Bool) : Nat := (l.filter (fun b => !b)).length

theorem falses_set {l : List Bool} {j : Nat} (h : l[j]? = some false) :
    falses (l.set j true) + 1 = falses l := by
  obtain ⟨hj, hf⟩ := List.getElem?_eq_some_iff.mp h
  have hpos : 0 < falses l :=
    List.length_pos_iff_exists_mem.mpr ⟨false, List.mem_filter.mpr ⟨List.mem_of_getElem? h, rfl⟩⟩
  unfold falses at hpos ⊢
  rw [← List.countP_eq_length_filter, ← List.countP_eq_length_filter, List.countP_set hj, hf] at *
  simp only [Bool.not_false, Bool.not_true, ↓reduceIte, Bool.false_eq_true, Nat.add_zero]
  omega

theorem falses_le (l : List Bool) : falses l ≤ l.length := List.length_filter_le _ _

/-- a step conserves matches + unflagged positions of `b`: the position it flags held `false` -/
theorem jaroStep_inv (b : Array Nat) (sr : Nat) (st : List Bool × Array Bool × Nat) (ix : Nat × Nat) :
    (Coh.jaroStep b sr st ix).2.2 + falses (Coh.jaroStep b sr st ix).2.1.toList = st.2.2 + falses st.2.1.toList := by
  unfold Coh.jaroStep
  simp only []
  split
  · rename_i j hj
    have hfl : st.2.1[j]? = some false := by
      unfold Coh.findMatch at hj
      have := List.find?_some hj
      simp only [Bool.and_eq_true, beq_iff_eq] at this
      exact this.2
    have hl : st.2.1.toList[j]? = some false := by rw [Array.getElem?_toList]; exact hfl
    have := falses_set hl
    simp only [Array.toList_setIfInBounds]
    omega
  · rfl

theorem jaroMatch_le (a : List Nat) (b : Array Nat) : (Coh.jaroMatch a b).2.2 ≤ a.length := by
  -- a step counts at most one match
  suffices ∀ (sr : Nat) (xs : List (Nat × Nat)) (st : List Bool × Array Bool × Nat),
      (xs.foldl (Coh.jaroStep b sr) st).2.2 ≤ st.2.2 + xs.length by
    simpa [Coh.jaroMatch] using this _ (a.zipIdx.map fun p => (p.2, p.1)) ([], Array.replicate b.size false, 0)
  intro sr xs
  induction xs with
  | nil => exact fun st => Nat.le_refl _
  | cons x xs ih =>
    intro st
    have hs : (Coh.jaroStep b sr st x).2.2 ≤ st.2.2 + 1 := by
      unfold Coh.jaroStep
      dsimp only
      split <;> simp
    have := ih (Coh.jaroStep b sr st x)
    rw [List.foldl_cons, List.length_cons]
    omega

theorem jaroMatch_le_b (a : List Nat) (b : Array Nat) : (Coh.jaroMatch a b).2.2 ≤ b.size := by
  unfold Coh.jaroMatch
  simp only []
  -- matches so far + unflagged positions of `b` = size of `b`
  have := List.foldlRecOn (motive := fun st => st.2.2 + falses st.2.1.toList = b.size)
    (a.zipIdx.map (fun p => (p.2, p.1))) (Coh.jaroStep b (max a.length b.size / 2 - 1))
    (b := ([], Array.replicate b.size false, 0)) (by simp [falses])
    (fun st h x _ => (jaroStep_inv b _ st x).trans h)
  omega

/-- `m as f64 / n as f64` of `strsim::jaro`; `n` is a 64-bit `usize`, so `n as f64` is finite -/
theorem ratio64_le_one {m n : Nat} (hmn : m ≤ n) (h1 : 1 ≤ n) (hn : n < 2 ^ 64) :
    AtMost (Fl.div (Fl.ofNat fmt64 m) (Fl.ofNat fmt64 n)) 1 :=
  div_ofNat_le_one (ofNat_atMost hmn) (good64.nat_pos h1)
    (roundPos_nat_lt_inf_of (B := 2 ^ 64) (by decide +kernel) (by omega))

theorem jaro_le_one (a b : List Nat) (ha : a.length < 2 ^ 64) (hb : b.length < 2 ^ 64) : AtMost (Coh.jaro a b) 1 := by
  unfold Coh.jaro
  by_cases h1 : (a.isEmpty && b.isEmpty) = true
  · rw [if_pos h1]; exact ofNat_atMost (Nat.le_refl _)
  rw [if_neg h1]
  by_cases h2 : (a.isEmpty || b.isEmpty) = true
  · rw [if_pos h2]; exact atMost_zero
  rw [if_neg h2]
  simp only [Bool.or_eq_true, List.isEmpty_iff, not_or] at h2
  have hane : 1 ≤ a.length := List.length_pos_iff.mpr h2.1
  have hbne : 1 ≤ b.length := List.length_pos_iff.mpr h2.2
  have hm := jaroMatch_le a b.toArray
  have hm' := jaroMatch_le_b a b.toArray
  simp only [List.size_toArray] at hm'
  generalize Coh.jaroMatch a b.toArray = r at hm hm' ⊢
  obtain ⟨aFlags, bFlags, m⟩ := r
  simp only at hm hm' ⊢
  by_cases hm0 : m = 0
  · rw [if_pos hm0]; exact atMost_zero
  rw [if_neg hm0]
  have hm1 : 1 ≤ m := Nat.pos_of_ne_zero hm0
  -- three ratios `≤ 1` (the third is `(m - t) / m`, whatever the number `t` of transpositions), their sum `≤ 3`,
  -- divided by `3`
  generalize (List.filter _ _).length / 2 = t
  have x1 := ratio64_le_one hm hane ha
  have x2 := ratio64_le_one hm' hbne hb
  have x3 := ratio64_le_one (Nat.sub_le m t) hm1 (Nat.lt_of_le_of_lt hm ha)
  have s3 := add_atMost good64 (add_atMost good64 x1 x2 (by decide)) x3 (by decide)
  exact div_ofNat_le_one s3 (good64.nat_pos (by decide)) (good64.nat_finite 3 (by decide))

theorem popularityCompare_le_one {tbl : Coh.LangTable} (htbl : ∀ row ∈ tbl, row.2.1.length < 2 ^ 64)
    {lang : Name} {ordered : List Nat} (ho : ordered.length < 2 ^ 64) {r : F32}
    (h : Coh.popularityCompare tbl lang ordered = some r) : AtMost r 1 := by
  unfold Coh.popularityCompare at h
  split at h
  · cases h
  · rename_i row hrow
    cases h
    exact toF32_le_one (jaro_le_one _ _ ho (htbl row (List.mem_of_find?_eq_some hrow)))

theorem Coh.coherenceRatio_scores_le_one {env : Coh.CohEnv} {ranges : List (Name × Nat × Nat)}
    {secondary : List Name} {tbl : Coh.LangTable} {tooSmall : Nat} {t : Text} {thr : F32} {incl : List Name}
    (henv : ∀ c x, x ∈ env.lower c → x < 0x110000) (htbl : ∀ row ∈ tbl, row.2.1.length < 2 ^ 64)
    {r : List (Name × F32)} (h : Coh.coherenceRatio env ranges secondary tbl tooSmall t thr incl = some r) :
    ∀ q ∈ r, AtMost q.2 1 :=
  Coh.coherenceRatio_scores (AtMost · 1) henv atMost_zero (fun l ordered x ho hx => popularityCompare_le_one htbl (by omega) hx) h

theorem jaro_ok (a b : List Nat) (ha : a.length < 2 ^ 64) (hb : b.length < 2 ^ 64) : Ok (Coh.jaro a b) :=
  (jaro_le_one a b ha hb).ok

theorem Coh.coherenceRatio_scores_ok {env : Coh.CohEnv} {ranges : List (Name × Nat × Nat)}
    {secondary : List Name} {tbl : Coh.LangTable} {tooSmall : Nat} {t : Text} {thr : F32} {incl : List Name}
    (henv : ∀ c x, x ∈ env.lower c → x < 0x110000) (htbl : ∀ row ∈ tbl, row.2.1.length < 2 ^ 64)
    {r : List (Name × F32)} (h : Coh.coherenceRatio env ranges secondary tbl tooSmall t thr incl = some r) :
    ∀ q ∈ r, Ok q.2 :=
  fun q hq => (Coh.coherenceRatio_scores_le_one henv htbl h q hq).ok

variable {L : Type} [DecidableEq L]

/-- `2^24`: up to there the integers are exact in f32 -/
theorem mergeModel_scores_le_one (rs : List (List (L × F32)))
    (hnd : ∀ r ∈ rs, (r.map (·.1)).Nodup) (hok : ∀ r ∈ rs, ∀ p ∈ r, AtMost p.2 1) (hlen : rs.length < 2 ^ 24) :
    ∀ q ∈ mergeModel rs, AtMost q.2 1 :=
  mergeModel_scores (AtMost · 1) rs hnd hok fun scores h h1 h2 => mean_le_one good32 scores h h1 (Nat.lt_of_le_of_lt h2 hlen)

theorem mergeModel_scores_ok (rs : List (List (L × F32)))
    (hnd : ∀ r ∈ rs, (r.map (·.1)).Nodup) (hok : ∀ r ∈ rs, ∀ p ∈ r, Ok p.2) (hlen : rs.length < 2 ^ 64) :
    ∀ q ∈ mergeModel rs, Ok q.2 :=
  mergeModel_scores Ok rs hnd hok fun scores h h1 h2 => ok_mean scores h h1 (by omega)

end Charset
