/-
  The float operations on the three ranges the development speaks of: `Ok` (non-negative or `+inf`), `NN`
  (non-negative, finite) and `AtMost x j` (between `0` and the integer `j`).  On finite non-negative operands `add`,
  `div` and `f64 as f32` round the exact result (`add_key`, `div_key`, `toF32_key`); a bound `AtMost` on the result
  then needs only a bound on the exact result (`atMost_of_roundPos`: rounding is monotone) and `ival_mono`.  `Ok`
  also admits `+inf` and every format, so its closure lemmas walk through the special cases of each operation.
-/
import CharsetProof.Lemmas.FloatMono
namespace Charset
namespace Fl
variable {f : Fmt}

/-- non-negative and not NaN (possibly +inf) -/
def Ok (x : Fl f) : Prop := 0 ≤ x.key ∧ x.key ≤ f.infKey

/-- finite and non-negative -/
def NN (x : Fl f) : Prop := 0 ≤ x.key ∧ x.key < f.infKey

/-- `0 ≤ x ≤ fl(j)`, stated on keys; for `j < 2^(mbits+1)` the float `fl(j)` nearest to `j` is `j` (`Good.ival_nat`) -/
def AtMost (x : Fl f) (j : Nat) : Prop := 0 ≤ x.key ∧ x.key ≤ (roundPos f j 1 : Int)

theorem ext_key {x y : Fl f} (h : x.key = y.key) : x = y := by
  cases x
  cases y
  exact congrArg Fl.mk h

theorem ok_natCast {k : Nat} (h : k ≤ f.infKey) : Ok (⟨(k : Int)⟩ : Fl f) :=
  ⟨Int.natCast_nonneg k, Int.ofNat_le.mpr h⟩

theorem AtMost.ok {x : Fl f} {j : Nat} (h : AtMost x j) : Ok x :=
  ⟨h.1, Int.le_trans h.2 (Int.ofNat_le.mpr (roundPos_le_inf f j 1))⟩

theorem AtMost.nn {x : Fl f} {j : Nat} (h : AtMost x j) (hfin : roundPos f j 1 < f.infKey) : NN x :=
  ⟨h.1, Int.lt_of_le_of_lt h.2 (Int.ofNat_lt.mpr hfin)⟩

theorem AtMost.nn_of_lt (g : Good f) {x : Fl f} {j : Nat} (h : AtMost x j) (hj : j < 2 ^ (f.mbits + 1)) : NN x :=
  h.nn (g.nat_finite j hj)

theorem atMost_zero {j : Nat} : AtMost (zero : Fl f) j := ⟨Int.le_refl 0, Int.natCast_nonneg _⟩

theorem ok_zero : Ok (zero : Fl f) := ok_natCast (Nat.zero_le _)

theorem ok_ofRat (n d : Nat) : Ok (ofRat f n d) := ok_natCast (roundPos_le_inf f n d)

theorem ok_ofNat (n : Nat) : Ok (ofNat f n) := ok_ofRat n 1

theorem atMost_of_roundPos {x : Fl f} {n d j : Nat} (hx : x.key = roundPos f n d) (hd : 0 < d) (h : n ≤ j * d) :
    AtMost x j := by
  rw [AtMost, hx]
  exact ⟨Int.natCast_nonneg _, Int.ofNat_le.mpr (roundPos_mono f n d j 1 hd (by decide) (by rwa [Nat.mul_one]))⟩

theorem ofNat_atMost {a b : Nat} (h : a ≤ b) : AtMost (ofNat f a) b :=
  atMost_of_roundPos rfl (by decide) (by rwa [Nat.mul_one])

theorem lt_iff {x y : Fl f} : Fl.lt x y = true ↔ x.isNaN = false ∧ y.isNaN = false ∧ x.key < y.key := by
  simp [Fl.lt, and_assoc]

theorem ge_iff {x y : Fl f} : Fl.ge x y = true ↔ x.isNaN = false ∧ y.isNaN = false ∧ y.key ≤ x.key := by
  simp [Fl.ge, Fl.le, and_assoc, and_left_comm]

theorem ge_self {x : Fl f} (hx : x.isNaN = false) : Fl.ge x x = true := ge_iff.mpr ⟨hx, hx, Int.le_refl _⟩

theorem ok_not_nan {x : Fl f} (h : Ok x) : x.isNaN = false := by
  simp only [Ok] at h
  simp only [isNaN, decide_eq_false_iff_not, Nat.not_lt]
  omega

theorem finite_not_nan {x : Fl f} (h : x.isFinite = true) : x.isNaN = false ∧ x.isInf = false := by
  unfold isFinite at h
  unfold isNaN isInf
  simp only [decide_eq_true_eq] at h
  constructor <;> simp <;> omega

theorem nn_flags {x : Fl f} (h : NN x) : x.isNaN = false ∧ x.isInf = false := by
  obtain ⟨h0, hlt⟩ := h
  exact finite_not_nan (decide_eq_true (by omega))

theorem isNaN_neg (a : Fl f) : (neg a).isNaN = a.isNaN := by
  unfold neg
  split
  · rfl
  · simp only [isNaN, Int.natAbs_neg]

theorem isInf_neg {a : Fl f} (h : a.isNaN = false) : (neg a).isInf = a.isInf := by
  unfold neg
  simp only [h, Bool.false_eq_true, ↓reduceIte]
  unfold isInf; rw [Int.natAbs_neg]

theorem neg_key {a : Fl f} (h : a.isNaN = false) : (neg a).key = -a.key := by
  unfold neg; simp [h]

/-- `toDy` without the pattern match -/
theorem toDy_eq (a : Fl f) : a.toDy =
    (if a.key < 0 then -((decodeKey f a.key.natAbs).1 : Int) else (decodeKey f a.key.natAbs).1,
      (decodeKey f a.key.natAbs).2) := rfl

theorem toDy_neg {a : Fl f} (h : a.isNaN = false) : (neg a).toDy = (-(a.toDy).1, (a.toDy).2) := by
  rw [toDy_eq, toDy_eq, neg_key h, Int.natAbs_neg]
  -- the sign flips; a zero key has the mantissa 0
  rcases Int.lt_trichotomy a.key 0 with hneg | h0 | hpos
  · rw [if_neg (by omega), if_pos hneg, Int.neg_neg]
  · rw [h0]; simp [decodeKey]
  · rw [if_pos (by omega), if_neg (by omega)]

theorem toDy_nonneg {x : Fl f} (h : 0 ≤ x.key) : 0 ≤ x.toDy.1 := by
  rw [toDy_eq, if_neg (Int.not_lt.mpr h)]
  exact Int.natCast_nonneg _

theorem roundDy_zero (f : Fmt) (e : Int) : roundDy f 0 e = 0 := by
  unfold roundDy; split <;> simp [roundPos_zero]

theorem add_eq {a b : Fl f} (ha : a.isNaN = false) (hb : b.isNaN = false) :
    add a b =
      if a.isInf ∧ b.isInf then (if a.key = b.key then a else nan f)
      else if a.isInf then a else if b.isInf then b
      else ofSigned f (a.toDy.1 * 2 ^ (a.toDy.2 - min a.toDy.2 b.toDy.2).toNat
        + b.toDy.1 * 2 ^ (b.toDy.2 - min a.toDy.2 b.toDy.2).toNat) (min a.toDy.2 b.toDy.2) := by
  unfold add
  rw [if_neg (by rw [ha, hb]; simp)]

theorem sub_nan {a b : Fl f} (h : a.isNaN = true ∨ b.isNaN = true) : sub a b = nan f := by
  unfold sub add
  rw [isNaN_neg, if_pos h]

theorem sub_eq {a b : Fl f} (ha : a.isNaN = false) (hb : b.isNaN = false) :
    sub a b =
      if a.isInf ∧ b.isInf then (if a.key = -b.key then a else nan f)
      else if a.isInf then a else if b.isInf then neg b
      else ofSigned f (a.toDy.1 * 2 ^ (a.toDy.2 - min a.toDy.2 b.toDy.2).toNat
        + -b.toDy.1 * 2 ^ (b.toDy.2 - min a.toDy.2 b.toDy.2).toNat) (min a.toDy.2 b.toDy.2) := by
  rw [sub, add_eq ha ((isNaN_neg b).trans hb), isInf_neg hb, neg_key hb, toDy_neg hb]

theorem sub_self_finite (x : Fl f) (h : x.isFinite = true) : sub x x = ⟨0⟩ := by
  have hx := finite_not_nan h
  rw [sub_eq hx.1 hx.1, hx.2, Int.min_self, Int.sub_self, Int.toNat_zero, Int.neg_mul, Int.add_right_neg]
  simp [ofSigned, roundDy_zero]

theorem toDy_nn {x : Fl f} (h : NN x) : ∃ (m : Nat) (e : Int),
    x.toDy = ((m : Int), e) ∧ f.qmin ≤ e ∧ m * 2 ^ (e - f.qmin).toNat = ival f x.key.toNat := by
  have h2 : x.key.natAbs = x.key.toNat := by have := h.1; omega
  refine ⟨_, _, ?_, (decodeKey_ival f x.key.toNat).2, (decodeKey_ival f x.key.toNat).1⟩
  rw [toDy_eq, if_neg (Int.not_lt.mpr h.1), h2]

theorem toNat_sub_split {a e q : Int} (h1 : q ≤ e) (h2 : e ≤ a) :
    (a - q).toNat = (a - e).toNat + (e - q).toNat := by
  rw [← Int.toNat_add (Int.sub_nonneg.mpr h2) (Int.sub_nonneg.mpr h1)]
  congr 1; omega

theorem ofSigned_natCast (f : Fmt) (m : Nat) (e : Int) : ofSigned f (m : Int) e = ⟨(roundDy f m e : Int)⟩ := by
  simp only [ofSigned, Int.not_lt.mpr (Int.natCast_nonneg m), ↓reduceIte, Int.natAbs_natCast]

theorem roundDy_eq (f : Fmt) (m : Nat) {e q : Int} (hq : q ≤ e) (hq0 : q ≤ 0) :
    roundDy f m e = roundPos f (m * 2 ^ (e - q).toNat) (2 ^ (-q).toNat) := by
  unfold roundDy
  split
  · rename_i he
    apply roundPos_ratio_eq f (by decide) (Nat.two_pow_pos _)
    rw [Int.sub_eq_add_neg, Int.toNat_add he (Int.neg_nonneg_of_nonpos hq0), Nat.pow_add]; ac_rfl
  · apply roundPos_ratio_eq f (Nat.two_pow_pos _) (Nat.two_pow_pos _)
    have : -q = (e - q) + -e := by omega
    rw [this, Int.toNat_add (Int.sub_nonneg.mpr hq) (by omega), Nat.pow_add]; ac_rfl

theorem add_key (hq : f.qmin ≤ 0) {a b : Fl f} (ha : NN a) (hb : NN b) :
    (add a b).key = roundPos f (ival f a.key.toNat + ival f b.key.toNat) (scale f) := by
  obtain ⟨ma, ea, hda, hqa, hva⟩ := toDy_nn ha
  obtain ⟨mb, eb, hdb, hqb, hvb⟩ := toDy_nn hb
  rw [add_eq (nn_flags ha).1 (nn_flags hb).1, (nn_flags ha).2, (nn_flags hb).2, hda, hdb]
  simp only [Bool.false_eq_true, and_self, ↓reduceIte]
  have hea : min ea eb ≤ ea := Int.min_le_left ea eb
  have heb : min ea eb ≤ eb := Int.min_le_right ea eb
  have heq : f.qmin ≤ min ea eb := Int.le_min.mpr ⟨hqa, hqb⟩
  generalize min ea eb = e at *
  have hS : (ma : Int) * 2 ^ (ea - e).toNat + (mb : Int) * 2 ^ (eb - e).toNat
      = ((ma * 2 ^ (ea - e).toNat + mb * 2 ^ (eb - e).toNat : Nat) : Int) := by push_cast; rfl
  -- both summands are brought to the exponent `e`, the sum is rounded at the exponent `qmin`
  rw [hS, ofSigned_natCast, roundDy_eq f _ heq hq, ← hva, ← hvb, Nat.add_mul,
    toNat_sub_split heq hea, toNat_sub_split heq heb,
    Nat.pow_add, Nat.pow_add, Nat.mul_assoc, Nat.mul_assoc]
  rfl

/-- `div` on a non-negative dividend and a finite positive divisor: the special cases that remain are an infinite
    dividend and the rounded quotient of the magnitudes, brought to a common exponent -/
theorem div_eq {a b : Fl f} (ha : Ok a) (hb0 : 0 < b.key) (hbf : b.key < f.infKey) :
    div a b = if a.isInf then ⟨f.infKey⟩
      else ⟨roundPos f
        (if 0 ≤ a.toDy.2 - b.toDy.2 then a.toDy.1.natAbs * 2 ^ (a.toDy.2 - b.toDy.2).toNat else a.toDy.1.natAbs)
        (if 0 ≤ a.toDy.2 - b.toDy.2 then b.toDy.1.natAbs
          else b.toDy.1.natAbs * 2 ^ (-(a.toDy.2 - b.toDy.2)).toNat)⟩ := by
  obtain ⟨hnb, hib⟩ := nn_flags ⟨Int.le_of_lt hb0, hbf⟩
  have hs : (a.key < 0) = (b.key < 0) := by
    rw [eq_false (Int.not_lt.mpr ha.1), eq_false (Int.not_lt.mpr (Int.le_of_lt hb0))]
  unfold div
  rw [if_neg (by rw [ok_not_nan ha, hnb]; simp), if_neg (by rw [hib]; simp)]
  by_cases hia : a.isInf = true
  · rw [if_pos hia, if_pos hia, if_pos hs]
  · rw [if_neg hia, if_neg hia, if_neg (by rw [hib]; simp), if_neg (Int.ne_of_gt hb0)]
    simp only [if_pos hs]

theorem div_key {a b : Fl f} (ha : NN a) (hb : NN b) (hb0 : 0 < b.key) :
    (div a b).key = roundPos f (ival f a.key.toNat) (ival f b.key.toNat) := by
  have hbpos := ival_pos f (Int.lt_toNat.mpr hb0)
  obtain ⟨ma, ea, hda, hqa, hva⟩ := toDy_nn ha
  obtain ⟨mb, eb, hdb, hqb, hvb⟩ := toDy_nn hb
  rw [← hvb] at hbpos
  have hmb : 0 < mb := Nat.pos_of_mul_pos_right hbpos
  rw [div_eq ⟨ha.1, Int.le_of_lt ha.2⟩ hb0 hb.2, if_neg (by rw [(nn_flags ha).2]; simp), hda, hdb]
  simp only [Int.natAbs_natCast]
  refine congrArg Int.ofNat ?_
  rw [← hva, ← hvb]
  split
  · rename_i hd
    apply roundPos_ratio_eq f hmb hbpos
    rw [toNat_sub_split hqb (Int.sub_nonneg.mp hd), Nat.pow_add]; ac_rfl
  · rename_i hd
    apply roundPos_ratio_eq f (Nat.mul_pos hmb (Nat.two_pow_pos _)) hbpos
    rw [Int.neg_sub, toNat_sub_split hqa (Int.le_of_lt (Int.lt_of_sub_neg (Int.not_le.mp hd))),
      Nat.pow_add]; ac_rfl

theorem toF32_key {x : F64} (hx : NN x) :
    (F64.toF32 x).key = roundPos fmt32 (ival fmt64 x.key.toNat) (scale fmt64) := by
  obtain ⟨hn, hi⟩ := nn_flags hx
  obtain ⟨m, e, hd, hq, hv⟩ := toDy_nn hx
  unfold F64.toF32
  simp only [hn, hi, Bool.false_eq_true, ↓reduceIte, hd]
  rw [ofSigned_natCast, roundDy_eq fmt32 m hq (by decide), hv]
  rfl

theorem AtMost.ival_le (g : Good f) {x : Fl f} {j : Nat} (h : AtMost x j) (hj : j < 2 ^ (f.mbits + 1)) :
    ival f x.key.toNat ≤ j * scale f := by
  rw [← g.ival_nat j hj]
  exact ival_mono f (Int.toNat_le.mpr h.2)

theorem toF32_le_one {x : F64} (hx : AtMost x 1) : AtMost (F64.toF32 x) 1 :=
  atMost_of_roundPos (toF32_key (hx.nn_of_lt good64 (by decide))) (scale_pos _) (hx.ival_le good64 (by decide))

theorem add_atMost (g : Good f) {a b : Fl f} {i j : Nat} (ha : AtMost a i) (hb : AtMost b j)
    (hij : i + j < 2 ^ (f.mbits + 1)) : AtMost (add a b) (i + j) := by
  have hi : i < 2 ^ (f.mbits + 1) := Nat.lt_of_le_of_lt (Nat.le_add_right i j) hij
  have hj : j < 2 ^ (f.mbits + 1) := Nat.lt_of_le_of_lt (Nat.le_add_left j i) hij
  apply atMost_of_roundPos (add_key g.qmin_le_zero (AtMost.nn_of_lt g ha hi) (AtMost.nn_of_lt g hb hj)) (scale_pos f)
  rw [Nat.add_mul]
  exact Nat.add_le_add (AtMost.ival_le g ha hi) (AtMost.ival_le g hb hj)

/-- no exactness is needed: values are monotone in keys and rounding is monotone in values -/
theorem div_le_one {a b : Fl f} (ha : NN a) (hb : NN b) (hb0 : 0 < b.key) (hab : a.key ≤ b.key) :
    AtMost (div a b) 1 := by
  apply atMost_of_roundPos (div_key ha hb hb0) (ival_pos f (Int.lt_toNat.mpr hb0))
  rw [Nat.one_mul]
  exact ival_mono f (Int.toNat_le_toNat hab)

theorem div_ofNat_le_one {a : Fl f} {j : Nat} (ha : AtMost a j) (hpos : 0 < roundPos f j 1)
    (hfin : roundPos f j 1 < f.infKey) : AtMost (div a (ofNat f j)) 1 :=
  div_le_one (ha.nn hfin) (AtMost.nn (ofNat_atMost (Nat.le_refl j)) hfin) (Int.ofNat_lt.mpr hpos) ha.2

theorem foldl_add_atMost (g : Good f) (l : List (Fl f)) (a : Fl f) (k : Nat) (ha : AtMost a k) (hl : ∀ s ∈ l, AtMost s 1)
    (hk : k + l.length < 2 ^ (f.mbits + 1)) : AtMost (l.foldl add a) (k + l.length) := by
  induction l generalizing a k with
  | nil => exact ha
  | cons x xs ih =>
    rw [List.length_cons, ← Nat.add_assoc, Nat.add_right_comm] at hk ⊢
    exact ih (add a x) (k + 1) (add_atMost g ha (hl x List.mem_cons_self) (Nat.lt_of_le_of_lt (Nat.le_add_right _ _) hk))
      (fun s hs => hl s (List.mem_cons_of_mem _ hs)) hk

theorem mean_le_one (g : Good f) (l : List (Fl f)) (h : ∀ s ∈ l, AtMost s 1) (h1 : 1 ≤ l.length)
    (h2 : l.length < 2 ^ (f.mbits + 1)) : AtMost (div (l.foldl add zero) (ofNat f l.length)) 1 := by
  have hs := foldl_add_atMost g l zero 0 atMost_zero h (by rwa [Nat.zero_add])
  rw [Nat.zero_add] at hs
  exact div_ofNat_le_one hs (g.nat_pos h1) (g.nat_finite _ h2)

theorem roundDy_le_inf (f : Fmt) (m : Nat) (e : Int) : roundDy f m e ≤ f.infKey := by
  unfold roundDy; split <;> exact roundPos_le_inf _ _ _

theorem ok_ofSigned_nonneg {m e : Int} (hm : 0 ≤ m) : Ok (ofSigned f m e) := by
  obtain ⟨n, rfl⟩ := Int.eq_ofNat_of_zero_le hm
  rw [ofSigned_natCast]
  exact ok_natCast (roundDy_le_inf f n e)

theorem inf_key {x : Fl f} (h : Ok x) (hi : x.isInf = true) : x.key = f.infKey := by
  simp only [isInf, decide_eq_true_eq] at hi
  have := h.1
  omega

theorem ok_add {a b : Fl f} (ha : Ok a) (hb : Ok b) : Ok (add a b) := by
  rw [add_eq (ok_not_nan ha) (ok_not_nan hb)]
  -- an infinite operand is the sum (two infinite operands are both `+inf`); two finite ones give a rounded sum
  by_cases hia : a.isInf = true
  · by_cases hib : b.isInf = true
    · rw [if_pos ⟨hia, hib⟩, if_pos ((inf_key ha hia).trans (inf_key hb hib).symm)]; exact ha
    · rw [if_neg (fun h => hib h.2), if_pos hia]; exact ha
  · rw [if_neg (fun h => hia h.1), if_neg hia]
    by_cases hib : b.isInf = true
    · rw [if_pos hib]; exact hb
    · rw [if_neg hib]
      exact ok_ofSigned_nonneg (Int.add_nonneg
        (Int.mul_nonneg (toDy_nonneg ha.1) (Int.pow_nonneg (by decide)))
        (Int.mul_nonneg (toDy_nonneg hb.1) (Int.pow_nonneg (by decide))))

theorem ok_mul {a b : Fl f} (ha : Ok a) (hb : Ok b) (h0a : a.isInf = true → b.key ≠ 0)
    (h0b : b.isInf = true → a.key ≠ 0) : Ok (mul a b) := by
  unfold mul
  rw [if_neg (by rw [ok_not_nan ha, ok_not_nan hb]; simp)]
  by_cases hinf : a.isInf = true ∨ b.isInf = true
  · -- an infinity times a non-zero non-negative factor is `+inf`
    have hz : ¬ (a.key = 0 ∨ b.key = 0) := by
      have ia := inf_key ha
      have ib := inf_key hb
      rcases hinf with hi | hi
      · have := h0a hi; have := ia hi; have := hb.1; have := hb.2; omega
      · have := h0b hi; have := ib hi; have := ha.1; have := ha.2; omega
    rw [if_pos hinf, if_neg hz, if_pos (by rw [eq_false (Int.not_lt.mpr ha.1), eq_false (Int.not_lt.mpr hb.1)])]
    exact ok_natCast (Nat.le_refl _)
  · rw [if_neg hinf]
    exact ok_ofSigned_nonneg (Int.mul_nonneg (toDy_nonneg ha.1) (toDy_nonneg hb.1))

theorem ok_div {a b : Fl f} (ha : Ok a) (hb0 : 0 < b.key) (hbf : b.key < f.infKey) : Ok (div a b) := by
  rw [div_eq ha hb0 hbf]
  -- an infinite dividend gives `+inf`, a finite one a rounded quotient
  split
  · exact ok_natCast (Nat.le_refl _)
  · exact ok_natCast (roundPos_le_inf _ _ _)

theorem ofNat32_pos (n : Nat) (h : 1 ≤ n) : 0 < (ofNat fmt32 n).key :=
  Int.ofNat_lt.mpr (good32.nat_pos h)

theorem ofNat32_lt_inf (n : Nat) (h2 : n < 2 ^ 64) : (ofNat fmt32 n).key < fmt32.infKey :=
  Int.ofNat_lt.mpr (roundPos_nat_lt_inf_of (B := 2 ^ 64) (by decide +kernel) (by omega))

/-- a quotient by a count (`x / n as f32`): the divisor is positive and finite -/
theorem ok_div_ofNat32 {a : F32} (ha : Ok a) {c : Nat} (h1 : 1 ≤ c) (h2 : c < 2 ^ 64) : Ok (div a (ofNat fmt32 c)) :=
  ok_div ha (ofNat32_pos c h1) (ofNat32_lt_inf c h2)

/-- the mean `iter().sum::<f32>() / len as f32`, as `mess_ratio`'s callers and `merge_coherence_ratios` compute it -/
theorem ok_mean (l : List (Fl fmt32)) (h : ∀ s ∈ l, Ok s) (h1 : 1 ≤ l.length) (h2 : l.length < 2 ^ 64) :
    Ok (div (l.foldl add zero) (ofNat fmt32 l.length)) :=
  ok_div_ofNat32 (List.foldlRecOn l add ok_zero fun _ hb s hs => ok_add hb (h s hs)) h1 h2

/-! `0 + x = x` and `x / 1 = x`: every float is the rounding of its own value (`roundPos_ival`). -/

theorem zero_add_nn (hq0 : f.qmin ≤ 0) {x : Fl f} (hx : NN x) : add (zero : Fl f) x = x := by
  have hz : NN (zero : Fl f) := ⟨Int.le_refl 0, Int.lt_of_le_of_lt hx.1 hx.2⟩
  apply ext_key
  rw [add_key hq0 hz hx]
  show roundPos f (ival f 0 + ival f x.key.toNat) (scale f) = x.key
  rw [ival_zero, Nat.zero_add, roundPos_ival f hq0 _ ((Int.toNat_lt hx.1).mpr hx.2), Int.toNat_of_nonneg hx.1]

theorem div_one_nn (g : Good f) {x : Fl f} (hx : NN x) : div x (ofNat f 1) = x := by
  have h1 : (1 : Nat) < 2 ^ (f.mbits + 1) := Nat.one_lt_two_pow (Nat.succ_ne_zero _)
  have hone : NN (ofNat f 1) := AtMost.nn_of_lt g (ofNat_atMost (Nat.le_refl 1)) h1
  apply ext_key
  rw [div_key hx hone (Int.ofNat_lt.mpr g.one_pos)]
  show roundPos f (ival f x.key.toNat) (ival f (roundPos f 1 1 : Int).toNat) = x.key
  rw [Int.toNat_natCast, g.ival_nat 1 h1, Nat.one_mul, roundPos_ival f g.qmin_le_zero _ ((Int.toNat_lt hx.1).mpr hx.2),
    Int.toNat_of_nonneg hx.1]

theorem lt_of_not_ge {x y : Fl f} (hx : x.isNaN = false) (hy : y.isNaN = false)
    (h : Fl.ge x y = false) : Fl.lt x y = true := by
  refine lt_iff.mpr ⟨hx, hy, Int.not_le.mp fun hle => ?_⟩
  rw [ge_iff.mpr ⟨hx, hy, hle⟩] at h
  cases h

/-- `0 ≤ a.key < thr.key ≤ infKey` -/
theorem finite_of_lt {a thr : Fl f} (ha : Ok a) (hlt : Fl.lt a thr = true) : a.isFinite = true := by
  obtain ⟨_, hthr, hlt⟩ := lt_iff.mp hlt
  have h0 := ha.1
  simp only [Fl.isNaN, decide_eq_false_iff_not, Nat.not_lt] at hthr
  simp only [Fl.isFinite, decide_eq_true_eq]
  omega

theorem ocmp_lt_iff {x y : Fl f} : (ocmp x y == Ordering.lt) = true ↔ x.key < y.key := by
  unfold ocmp
  rw [beq_iff_eq, Int.compare_eq_lt]

theorem ocmp_self_lt (x : Fl f) : (ocmp x x == Ordering.lt) = false :=
  Bool.eq_false_iff.mpr fun h => Int.lt_irrefl _ (ocmp_lt_iff.mp h)

theorem ocmp_swap (x y : Fl f) : ocmp y x = (ocmp x y).swap := by
  unfold ocmp
  exact Std.OrientedCmp.eq_swap

end Fl
end Charset
