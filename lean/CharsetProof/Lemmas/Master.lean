import CharsetProof.Lemmas.Container
import CharsetProof.Lemmas.Facts
set_option linter.unusedSectionVars false
namespace Charset
variable {E L : Type} [DecidableEq E]

/-- Hoare-style rule for the probing loop.  `Inv done st`: invariant after the encodings `done` (a prefix of the probe
    order `all`) have been processed.  `Q`: what is to be shown about the outcome.  The callbacks learn where in the
    order they are and what the probe answered (hence `_full`: nothing the loop knows is withheld from them). -/
theorem detectLoop_rule_full {W : World E L} {T : Tables E} {sort : Sorter E L} {c : Ctx E} {incl excl : List E}
    (all : List E)
    (Inv : List E → LoopState E L → Prop) (Q : Outcome E L → Prop)
    (hskip : ∀ done st e rest, done ++ e :: rest = all → Inv done st →
      (allowed incl excl e = false ∨ probe W T c st.soft e = .ok .needsBom ∨
        probe W T c st.soft e = .ok .hardFail ∨ ∃ f, probe W T c st.soft e = .ok (.similarSkip f)) →
      Inv (done ++ [e]) st)
    (hsoft : ∀ done st e rest fb, done ++ e :: rest = all → Inv done st → allowed incl excl e = true →
      probe W T c st.soft e = .ok (.softFail fb) → Inv (done ++ [e]) (softUpdate T c st e fb))
    (hacc : ∀ done st e rest m, done ++ e :: rest = all → Inv done st → allowed incl excl e = true →
      probe W T c st.soft e = .ok (.accepted m) →
      (exitCond c e m.chaos = false →
        Inv (done ++ [e]) { st with results := append sort T.tooBig st.results m }) ∧
      (exitCond c e m.chaos = true → ∀ x, findByCand (append sort T.tooBig st.results m) e = some x →
        Q (.exit x)))
    (hdone : ∀ st, Inv all st → Q (.done st)) :
    ∀ (es : List E) (done : List E) (st : LoopState E L) (out : Outcome E L),
      done ++ es = all → Inv done st → detectLoop W T sort c incl excl es st = .ok out → Q out := by
  intro es
  induction es with
  | nil =>
    intro done st out hall hinv h
    cases h
    have : done = all := by simpa using hall
    subst this
    exact hdone st hinv
  | cons e es ih =>
    intro done st out hall hinv h
    have hall' : (done ++ [e]) ++ es = all := by simpa using hall
    have skip := fun hcase => ih (done ++ [e]) st out hall' (hskip done st e es hall hinv hcase)
    rw [detectLoop] at h
    split at h
    next hal => exact skip (.inl (by simpa using hal)) h
    next hal =>
      have hal' : allowed incl excl e = true := by simpa using hal
      split at h
      next => cases h
      next hp => exact skip (.inr (.inl hp)) h
      next hp => exact skip (.inr (.inr (.inl hp))) h
      next f hp => exact skip (.inr (.inr (.inr ⟨f, hp⟩))) h
      next fb hp => exact ih _ _ out hall' (hsoft done st e es fb hall hinv hal' hp) h
      next m hp =>
        obtain ⟨hcont, hexit⟩ := hacc done st e es m hall hinv hal' hp
        split at h
        next hex =>
          split at h
          next => cases h
          next x hx =>
            cases h
            exact hexit hex x hx
        next hex => exact ih _ _ out hall' (hcont (by simpa using hex)) h

def LoopState.SlotsAll (P : Match E L → Prop) (st : LoopState E L) : Prop :=
  (∀ m, st.fbAscii = some m → P m) ∧ (∀ m, st.fbU8 = some m → P m) ∧ (∀ m, st.fbSpec = some m → P m)

theorem pickFallback_mem {st : LoopState E L} {fb : Match E L} (h : pickFallback st = some fb) :
    st.fbSpec = some fb ∨ st.fbU8 = some fb ∨ st.fbAscii = some fb := by
  unfold pickFallback at h
  split at h
  · simp_all
  · simp_all
  · split at h <;> simp_all
  · simp_all
  · simp_all

theorem pickFallback_some {st : LoopState E L}
    (h : st.fbSpec.isSome = true ∨ st.fbU8.isSome = true ∨ st.fbAscii.isSome = true) :
    ∃ fb, pickFallback st = some fb := by
  unfold pickFallback
  split
  · exact ⟨_, rfl⟩
  · exact ⟨_, rfl⟩
  · split <;> exact ⟨_, rfl⟩
  · exact ⟨_, rfl⟩
  · simp_all

theorem softUpdate_slots {T : Tables E} {c : Ctx E} {st : LoopState E L} {e : E} {fb : Option (Match E L)}
    {P : Match E L → Prop} (hst : st.SlotsAll P) (hfb : ∀ m, fb = some m → P m) :
    (softUpdate T c st e fb).SlotsAll P := by
  unfold softUpdate
  split
  · exact hst
  · rename_i entry
    have hP : ∀ m, some entry = some m → P m := fun m hm => Option.some.inj hm ▸ hfb entry rfl
    split
    · exact ⟨hst.1, hst.2.1, hP⟩
    · split
      · exact ⟨hP, hst.2.1, hst.2.2⟩
      · exact ⟨hst.1, hP, hst.2.2⟩

theorem softUpdate_results {T : Tables E} {c : Ctx E} {st : LoopState E L} {e : E} {fb : Option (Match E L)} :
    (softUpdate T c st e fb).results = st.results := by
  unfold softUpdate
  split
  · rfl
  · split
    · rfl
    · split <;> rfl

theorem softUpdate_soft {T : Tables E} {c : Ctx E} {st : LoopState E L} {e : E} {fb : Option (Match E L)} :
    (softUpdate T c st e fb).soft = st.soft ++ [e] := by
  unfold softUpdate
  split
  · rfl
  · split
    · rfl
    · split <;> rfl

theorem pickFallback_softUpdate {T : Tables E} {c : Ctx E} {e : E} {fb : Match E L} :
    pickFallback (softUpdate T c ({} : LoopState E L) e (some fb)) = some fb := by
  unfold softUpdate
  simp only
  split
  · simp [pickFallback]
  · split <;> simp [pickFallback]

/-- after `append`, the appended encoding can be looked up (lib.rs:554-559 never takes its error path) -/
theorem findByCand_append {sort : Sorter E L} (hperm : ∀ l, (sort l).Perm l) (tooBig : Nat)
    (items : List (Match E L)) (m : Match E L) :
    ∃ x, findByCand (append sort tooBig items m) m.enc = some x := by
  rcases append_cases sort tooBig items m with ⟨pre, m0, post, _, _, _, h4⟩ | ⟨_, h4⟩
  · rw [h4]
    exact findByCand_of_mem (m := { m0 with subs := m0.subs ++ [m.toSub] }) (by simp) (by simp [Match.cands, Match.toSub])
  · rw [h4]
    exact findByCand_of_mem (m := m) ((hperm _).mem_iff.mpr (by simp)) (by simp [Match.cands])

/-- `detectLoop_rule_full` in terms of the verdicts of the encodings probed alone, from the initial state.  The
    soft-failure list only ever turns a verdict into a similarity skip (`probe_alone`), and it holds encodings
    processed earlier that soft-failed when probed alone: that invariant is kept here, once, so the callbacks
    never see the list. -/
theorem detectLoop_rule_alone {W : World E L} {T : Tables E} {sort : Sorter E L} {c : Ctx E} {incl excl : List E}
    {all : List E} {out : Outcome E L} (h : detectLoop W T sort c incl excl all {} = .ok out)
    (Inv : List E → LoopState E L → Prop) (Q : Outcome E L → Prop)
    (hskip : ∀ done st e rest, done ++ e :: rest = all → Inv done st →
      (allowed incl excl e = false ∨ probe W T c [] e = .ok .needsBom ∨ probe W T c [] e = .ok .hardFail ∨
        ∃ f ∈ done, T.similar e f = true ∧ ∃ fb, probe W T c [] f = .ok (.softFail fb)) →
      Inv (done ++ [e]) st)
    (hsoft : ∀ done st e rest fb, done ++ e :: rest = all → Inv done st → allowed incl excl e = true →
      probe W T c [] e = .ok (.softFail fb) → Inv (done ++ [e]) (softUpdate T c st e fb))
    (hacc : ∀ done st e rest m, done ++ e :: rest = all → Inv done st → allowed incl excl e = true →
      probe W T c [] e = .ok (.accepted m) →
      (exitCond c e m.chaos = false →
        Inv (done ++ [e]) { st with results := append sort T.tooBig st.results m }) ∧
      (exitCond c e m.chaos = true → ∀ x, findByCand (append sort T.tooBig st.results m) e = some x →
        Q (.exit x)))
    (hdone : ∀ st, Inv all st → Q (.done st)) (h0 : Inv [] {}) : Q out := by
  let Soft : List E → LoopState E L → Prop := fun done st =>
    ∀ f ∈ st.soft, f ∈ done ∧ ∃ fb, probe W T c [] f = .ok (.softFail fb)
  have grow : ∀ {done st} e, Soft done st → Soft (done ++ [e]) st :=
    fun e hs f hf => ⟨List.mem_append_left _ (hs f hf).1, (hs f hf).2⟩
  refine detectLoop_rule_full all (fun done st => Inv done st ∧ Soft done st) Q ?_ ?_ ?_ (fun st hinv => hdone st hinv.1)
    all [] {} out (by simp) ⟨h0, nofun⟩ h
  · intro done st e rest hall ⟨hinv, hs⟩ hcase
    refine ⟨hskip done st e rest hall hinv ?_, grow e hs⟩
    rcases hcase with h0 | h1 | h1 | ⟨f, h1⟩
    · exact .inl h0
    · exact .inr (.inl (probe_alone h1 nofun))
    · exact .inr (.inr (.inl (probe_alone h1 nofun)))
    · obtain ⟨hsim, hfs⟩ := probe_similarSkip h1
      exact .inr (.inr (.inr ⟨f, (hs f hfs).1, hsim, (hs f hfs).2⟩))
  · intro done st e rest fb hall ⟨hinv, hs⟩ hal hp
    have hnil := probe_alone hp nofun
    refine ⟨hsoft done st e rest fb hall hinv hal hnil, fun f hf => ?_⟩
    rw [softUpdate_soft] at hf
    rcases List.mem_append.mp hf with hf | hf
    · exact grow e hs f hf
    · obtain rfl := List.mem_singleton.mp hf
      exact ⟨by simp, fb, hnil⟩
  · intro done st e rest m hall ⟨hinv, hs⟩ hal hp
    obtain ⟨h1, h2⟩ := hacc done st e rest m hall hinv hal (probe_alone hp nofun)
    exact ⟨fun hex => ⟨h1 hex, grow e hs⟩, h2⟩

def resultOf (sort : Sorter E L) (tooBig : Nat) : Outcome E L → List (Match E L)
  | .exit m => [m]
  | .done st => finish sort tooBig st

theorem fromBytes_eq {W : World E L} {T : Tables E} {sort : Sorter E L} {b : Bytes} {s : Settings} {incl excl : List E}
    (hincl : canonList T.ianaName s.incl = .ok incl) (hexcl : canonList T.ianaName s.excl = .ok excl) (hb : b ≠ []) :
    fromBytes W T sort b s =
      match detectLoop W T sort (ctxOf T b s) incl excl (probeOrder T.supported (prioritized T b s.preemptive)) {} with
      | .error st => .error st
      | .ok out => .ok (.ok (resultOf sort T.tooBig out)) := by
  have hne : b.isEmpty = false := by cases b <;> simp_all
  unfold fromBytes
  simp only [hincl, hexcl, hne, Bool.false_eq_true, ↓reduceIte]
  cases detectLoop W T sort (ctxOf T b s) incl excl (probeOrder T.supported (prioritized T b s.preemptive)) {} with
  | error st => rfl
  | ok out => cases out <;> rfl

theorem fromBytes_settings_congr {W : World E L} {T : Tables E} {sort : Sorter E L} {b : Bytes} {s s' : Settings}
    (hi : canonList T.ianaName s'.incl = canonList T.ianaName s.incl)
    (he : canonList T.ianaName s'.excl = canonList T.ianaName s.excl)
    (hc : ctxOf T b s' = ctxOf T b s) (hp : s'.preemptive = s.preemptive) :
    fromBytes W T sort b s' = fromBytes W T sort b s := by
  unfold fromBytes
  rw [hi, he, hc, hp]

/-- the four ways `from_bytes` goes: an unknown include entry, an unknown exclude entry, empty input, the probing loop -/
theorem fromBytes_cases (W : World E L) (T : Tables E) (sort : Sorter E L) (b : Bytes) (s : Settings) :
    (∃ n, canonList T.ianaName s.incl = .error n ∧ fromBytes W T sort b s = .ok (.error (.badInclude n))) ∨
    (∃ n, canonList T.ianaName s.excl = .error n ∧ fromBytes W T sort b s = .ok (.error (.badExclude n))) ∨
    ∃ incl excl, canonList T.ianaName s.incl = .ok incl ∧ canonList T.ianaName s.excl = .ok excl ∧
      (b = [] ∧ fromBytes W T sort b s = .ok (.ok [Match.default T.utf8]) ∨
       b ≠ [] ∧ fromBytes W T sort b s =
        match detectLoop W T sort (ctxOf T b s) incl excl (probeOrder T.supported (prioritized T b s.preemptive)) {} with
        | .error st => .error st
        | .ok out => .ok (.ok (resultOf sort T.tooBig out))) := by
  cases hi : canonList T.ianaName s.incl with
  | error n => exact Or.inl ⟨n, rfl, by simp [fromBytes, hi]⟩
  | ok incl =>
    cases he : canonList T.ianaName s.excl with
    | error n => exact Or.inr (Or.inl ⟨n, rfl, by simp [fromBytes, hi, he]⟩)
    | ok excl =>
      refine Or.inr (Or.inr ⟨incl, excl, rfl, rfl, ?_⟩)
      by_cases hb : b = []
      · exact Or.inl ⟨hb, by simp [fromBytes, hi, he, hb]⟩
      · exact Or.inr ⟨hb, fromBytes_eq hi he hb⟩

theorem fromBytes_ok_canon {W : World E L} {T : Tables E} {sort : Sorter E L}
    {b : Bytes} {s : Settings} {ms : List (Match E L)} (h : fromBytes W T sort b s = .ok (.ok ms)) :
    ∃ incl excl, canonList T.ianaName s.incl = .ok incl ∧ canonList T.ianaName s.excl = .ok excl := by
  rcases fromBytes_cases W T sort b s with ⟨n, _, h1⟩ | ⟨n, _, h1⟩ | ⟨incl, excl, hi, he, _⟩
  · rw [h1] at h; cases h
  · rw [h1] at h; cases h
  · exact ⟨incl, excl, hi, he⟩

theorem fromBytes_ok {W : World E L} {T : Tables E} {sort : Sorter E L} {b : Bytes} {s : Settings} {incl excl : List E}
    (hincl : canonList T.ianaName s.incl = .ok incl) (hexcl : canonList T.ianaName s.excl = .ok excl) (hb : b ≠ [])
    {ms : List (Match E L)} (h : fromBytes W T sort b s = .ok (.ok ms)) :
    ∃ out, detectLoop W T sort (ctxOf T b s) incl excl (probeOrder T.supported (prioritized T b s.preemptive)) {} =
      .ok out ∧ ms = resultOf sort T.tooBig out := by
  rw [fromBytes_eq hincl hexcl hb] at h
  split at h
  · cases h
  · rename_i out hout
    cases h
    exact ⟨out, hout, rfl⟩

theorem finish_cases {sort : Sorter E L} (hperm : ∀ l, (sort l).Perm l) (tooBig : Nat) (st : LoopState E L) :
    finish sort tooBig st = st.results ∨
      ∃ fb, st.results = [] ∧ pickFallback st = some fb ∧ finish sort tooBig st = [fb] := by
  unfold finish
  split
  · rename_i hemp
    have he : st.results = [] := by simpa using hemp
    split
    · rename_i fb hfb
      exact Or.inr ⟨fb, he, hfb, by rw [he, append_nil hperm]⟩
    · exact Or.inl he.symm
  · exact Or.inl rfl

/-- **Master theorem (results).**  `R done rs`: an invariant of the result list `rs` after the encodings `done`
    (a prefix of the probe order), kept by every `append` of an accepted probe result; `F`: a property of every
    prepared fallback entry.  Then what `from_bytes` returns on non-empty input is a final result list satisfying `R`,
    or (early exit) one element of an intermediate one, or a single fallback entry satisfying `F`. -/
theorem fromBytes_results {W : World E L} {T : Tables E} {sort : Sorter E L}
    (hperm : ∀ l, (sort l).Perm l) {b : Bytes} {s : Settings} {incl excl : List E}
    (hincl : canonList T.ianaName s.incl = .ok incl) (hexcl : canonList T.ianaName s.excl = .ok excl)
    (R : List E → List (Match E L) → Prop) (F : Match E L → Prop)
    (h0 : R [] []) (hskip : ∀ done rs e, R done rs → R (done ++ [e]) rs)
    (hacc : ∀ done rest rs e m, done ++ e :: rest = probeOrder T.supported (prioritized T b s.preemptive) →
      allowed incl excl e = true → R done rs → probe W T (ctxOf T b s) [] e = .ok (.accepted m) →
      R (done ++ [e]) (append sort T.tooBig rs m))
    (hfb : ∀ done rest e fb, done ++ e :: rest = probeOrder T.supported (prioritized T b s.preemptive) →
      allowed incl excl e = true → probe W T (ctxOf T b s) [] e = .ok (.softFail (some fb)) → F fb)
    {ms : List (Match E L)} (hb : b ≠ []) (h : fromBytes W T sort b s = .ok (.ok ms)) :
    R (probeOrder T.supported (prioritized T b s.preemptive)) ms ∨
    (∃ done rest rs x, done ++ rest = probeOrder T.supported (prioritized T b s.preemptive) ∧ R done rs ∧
      x ∈ rs ∧ ms = [x]) ∨
    (∃ fb, F fb ∧ ms = [fb]) := by
  obtain ⟨out, hout, rfl⟩ := fromBytes_ok hincl hexcl hb h
  -- `Q` of the loop rule is the goal as a predicate of `out`; the final state must also know `F` of its fallback slots
  apply detectLoop_rule_alone hout (fun done st => R done st.results ∧ st.SlotsAll F) _ ?_ ?_ ?_ ?_
    ⟨h0, by simp [LoopState.SlotsAll]⟩
  · intro done st e rest _ hinv _
    exact ⟨hskip _ _ e hinv.1, hinv.2⟩
  · intro done st e rest fb hall hinv hal hp
    refine ⟨by rw [softUpdate_results]; exact hskip _ _ e hinv.1, softUpdate_slots hinv.2 ?_⟩
    intro m hm
    subst hm
    exact hfb done rest e m hall hal hp
  · intro done st e rest m hall hinv hal hp
    have hR := hacc done rest _ e m hall hal hinv.1 hp
    exact ⟨fun _ => ⟨hR, hinv.2⟩,
      fun _ x hx => .inr (.inl ⟨done ++ [e], rest, _, x, by simpa using hall, hR, (findByCand_mem hx).1, rfl⟩)⟩
  · intro st ⟨hR, hF⟩
    rcases finish_cases hperm T.tooBig st with hf | ⟨fb, _, hpick, hf⟩
    · left
      show R _ (finish sort T.tooBig st)
      rw [hf]
      exact hR
    · refine .inr (.inr ⟨fb, ?_, hf⟩)
      rcases pickFallback_mem hpick with h1 | h1 | h1
      · exact hF.2.2 fb h1
      · exact hF.2.1 fb h1
      · exact hF.1 fb h1

/-- `x` is the entry with which the probe of its encoding – a supported one that passes the filters – answers when run
    alone (no earlier soft failures).  `v` says how: `.accepted`, or `fun m => .softFail (some m)` for a prepared
    fallback entry. -/
structure ProbedAs (W : World E L) (T : Tables E) (c : Ctx E) (incl excl : List E) (v : Match E L → Verdict E L)
    (x : Sub E L) : Prop where
  supported : x.enc ∈ T.supported
  allowed : allowed incl excl x.enc = true
  probe : ∃ m, probe W T c [] x.enc = .ok (v m) ∧ m.toSub = x ∧ m.subs = []

/-- **Master theorem (entries).**  On non-empty input either every candidate of every returned match is what the probe
    of its encoding accepts, or the result is a single match without alternatives (nothing was accepted): the fallback
    entry the probe of its encoding prepares.  What holds of a probe's answer (`accepted_facts`, `fallback_facts`)
    therefore holds of every entry; the loop state a probe reads (`soft`) decides only whether it is skipped
    (`probe_alone`). -/
theorem fromBytes_probed {W : World E L} {T : Tables E} {sort : Sorter E L}
    (hperm : ∀ l, (sort l).Perm l) {b : Bytes} {s : Settings} {incl excl : List E}
    (hincl : canonList T.ianaName s.incl = .ok incl) (hexcl : canonList T.ianaName s.excl = .ok excl)
    {ms : List (Match E L)} (hb : b ≠ []) (h : fromBytes W T sort b s = .ok (.ok ms)) :
    (∀ m ∈ ms, m.AllEntries (ProbedAs W T (ctxOf T b s) incl excl .accepted)) ∨
    (∃ fb, ms = [fb] ∧ fb.AllEntries (ProbedAs W T (ctxOf T b s) incl excl fun m => .softFail (some m)) ∧
      fb.subs = []) := by
  have hsup : ∀ done rest e, done ++ e :: rest = probeOrder T.supported (prioritized T b s.preemptive) →
      e ∈ T.supported := fun done rest e hall => mem_probeOrder_iff.mp (hall ▸ List.mem_append_cons_self)
  have key := fromBytes_results hperm hincl hexcl
    (fun _ rs => ∀ m ∈ rs, m.AllEntries (ProbedAs W T (ctxOf T b s) incl excl .accepted))
    (fun fb => fb.AllEntries (ProbedAs W T (ctxOf T b s) incl excl fun m => .softFail (some m)) ∧ fb.subs = [])
    (by simp) (fun _ _ _ h => h) ?_ ?_ hb h
  · rcases key with h1 | ⟨_, _, rs, x, _, h1, hx, rfl⟩ | ⟨fb, h1, rfl⟩
    · exact Or.inl h1
    · left; intro m hm
      simp only [List.mem_singleton] at hm
      subst hm; exact h1 m hx
    · exact Or.inr ⟨fb, rfl, h1⟩
  · intro done rest rs e m hall hal hrs hp
    have f := accepted_facts hp
    obtain rfl : m.enc = e := f.enc
    exact append_allEntries hperm hrs ⟨⟨hsup _ _ _ hall, hal, m, hp, rfl, f.subs⟩, by simp [f.subs]⟩
  · intro done rest e fb hall hal hp
    have f := fallback_facts hp
    obtain rfl : fb.enc = e := f.enc
    exact ⟨⟨⟨hsup _ _ _ hall, hal, fb, hp, rfl, f.subs⟩, by simp [f.subs]⟩, f.subs⟩

end Charset
