/-
  Means: over one value the mean is that value (one chunk: merge_coherence_ratios(&[r]) is r, sorted; the chaos of a
  single chunk is its mess ratio), and a mean of non-negative numbers is one.
-/
import CharsetProof.Lemmas.F32
import CharsetProof.Lemmas.Merge
namespace Charset
open Fl
variable {L : Type} [DecidableEq L]

theorem meanScore_single (s : F32) (hs : NN s) : meanScore [s] = s := by
  unfold meanScore
  simp only [List.foldl, List.length_singleton]
  rw [zero_add_nn (by decide) hs, div_one_nn good32 hs]

theorem mergeModel_single (r : List (L × F32)) (hnd : (r.map (·.1)).Nodup) (hs : ∀ p ∈ r, NN p.2) :
    mergeModel [r] = sortDesc r := by
  rw [mergeModel_eq, List.flatten_singleton, langsOf_of_nodup hnd, List.map_map]
  congr 1
  -- every language of `r` has its one score, and the mean of one score is that score
  refine (List.map_congr_left fun p hp => ?_).trans (List.map_id r)
  rw [Function.comp, scoresOf_of_nodup hnd hp, meanScore_single p.2 (hs p hp), id]

theorem meanRatio_single {r : F32} (hr : Ok r) : meanRatio [r] = r := by
  rcases Int.lt_or_le r.key fmt32.infKey with hfin | hinf
  · show meanScore [r] = r
    exact meanScore_single r ⟨hr.1, hfin⟩
  · -- the one other non-negative value is +∞: 0 + ∞ = ∞, ∞ / 1 = ∞
    obtain ⟨k⟩ := r
    obtain rfl : k = fmt32.infKey := Int.le_antisymm hr.2 hinf
    decide +kernel

/-- from "every mess ratio is non-negative and not NaN" to "every reported chaos is": the mean over the analysed
    chunks keeps the property -/
theorem meanRatio_ok (rs : List F32) (h : ∀ r ∈ rs, Ok r) (hlen : rs.length < 2 ^ 64) : Ok (meanRatio rs) := by
  unfold meanRatio
  split
  · exact ok_zero
  · rename_i hne
    exact ok_mean rs h (List.length_pos_iff.mpr (by simpa using hne)) hlen

end Charset
