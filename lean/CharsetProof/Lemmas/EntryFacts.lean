import CharsetProof.Lemmas.Master
import CharsetProof.Lemmas.F32
namespace Charset
variable {E L : Type} [DecidableEq E]

/-- what is known about every candidate entry of a regular (accepted) match -/
structure EntryAcc (W : World E L) (T : Tables E) (c : Ctx E) (incl excl : List E) (s : Sub E L) : Prop where
  raw : s.raw = c.b
  supported : s.enc ∈ T.supported
  allowed : allowed incl excl s.enc = true
  bom : s.bom = bomHereOf c s.enc
  below : Fl.ge s.chaos c.thr = false
  needsBom : needsBomCond T c s.enc = false
  text : TextOk W T c s.enc s.text
  chaosMean : ∃ ratios, s.chaos = meanRatio ratios ∧ ∀ r ∈ ratios, ∃ t, W.mess t c.thr = .ok r
  cohMerged : ∃ cdl, W.merge cdl = .ok s.cohs
  remainder : RemainderOk W T c s.enc
  chunksFact : ∃ p acc, p.lazy = lazyOf T c s.enc ∧ p.bomHere = bomHereOf c s.enc ∧ p.startIdx = startIdxOf c s.enc ∧
    (lazyOf T c s.enc = false → p.payload = s.text) ∧ (lazyOf T c s.enc = true → p.payload = none) ∧
    probeChunks W T c s.enc p = .ok acc ∧ s.chaos = meanRatio acc.ratios ∧ acc.lazyHard = false ∧
    (∃ cdl, cdsOf W T c s.enc acc = .ok cdl ∧ W.merge cdl = .ok s.cohs)

/-- what is known about the fallback entry -/
structure EntryFb (W : World E L) (T : Tables E) (c : Ctx E) (incl excl : List E) (s : Sub E L) : Prop where
  raw : s.raw = c.b
  supported : s.enc ∈ T.supported
  allowed : allowed incl excl s.enc = true
  bom : s.bom = false
  chaos : s.chaos = c.thr
  cohs : s.cohs = []
  enabled : c.fallback = true
  hint : c.prio.contains s.enc = true
  needsBom : needsBomCond T c s.enc = false
  text : TextOk W T c s.enc s.text
  remainder : RemainderOk W T c s.enc
  chunks : ∃ p acc, p.bomHere = bomHereOf c s.enc ∧ (lazyOf T c s.enc = false → p.payload = s.text) ∧
    (lazyOf T c s.enc = true → p.payload = none) ∧ probeChunks W T c s.enc p = .ok acc ∧ acc.lazyHard = false

/-- the chunk analysis behind an entry of encoding `e` that exposes `text`: the stage-1 result `p` it ran on and the
    accumulator `acc` it ended with, no chunk having been invalid -/
structure ChunkRun (W : World E L) (T : Tables E) (c : Ctx E) (e : E) (text : Option Text) (p : Prepared)
    (acc : ChunkAcc) : Prop where
  bomHere : p.bomHere = bomHereOf c e
  payload : lazyOf T c e = false → p.payload = text
  payloadLazy : lazyOf T c e = true → p.payload = none
  run : probeChunks W T c e p = .ok acc
  valid : acc.lazyHard = false

theorem EntryAcc.run {W : World E L} {T : Tables E} {c : Ctx E} {incl excl : List E} {s : Sub E L}
    (f : EntryAcc W T c incl excl s) :
    ∃ p acc, ChunkRun W T c s.enc s.text p acc ∧ s.chaos = meanRatio acc.ratios ∧
      ∃ cdl, cdsOf W T c s.enc acc = .ok cdl ∧ W.merge cdl = .ok s.cohs := by
  obtain ⟨p, acc, _, h2, _, h4, h5, h6, h7, h8, h9⟩ := f.chunksFact
  exact ⟨p, acc, ⟨h2, h4, h5, h6, h8⟩, h7, h9⟩

/-- **Entry facts.** On non-empty input the result is either a list of regular matches all of whose
    candidates satisfy `EntryAcc`, or a single fallback match satisfying `EntryFb`. -/
theorem fromBytes_facts {W : World E L} {T : Tables E} {sort : Sorter E L}
    (hperm : ∀ l, (sort l).Perm l) {b : Bytes} {s : Settings} {incl excl : List E}
    (hincl : canonList T.ianaName s.incl = .ok incl) (hexcl : canonList T.ianaName s.excl = .ok excl)
    {ms : List (Match E L)} (hb : b ≠ []) (h : fromBytes W T sort b s = .ok (.ok ms)) :
    (∀ m ∈ ms, m.AllEntries (EntryAcc W T (ctxOf T b s) incl excl)) ∨
    (∃ fb, ms = [fb] ∧ fb.AllEntries (EntryFb W T (ctxOf T b s) incl excl) ∧ fb.subs = []) := by
  -- every entry is a probe's answer (`fromBytes_probed`), and what holds of the answer holds of the entry
  rcases fromBytes_probed hperm hincl hexcl hb h with hall | ⟨fb, rfl, hfb, hsubs⟩
  · refine Or.inl fun m hm => (hall m hm).imp fun x hx => ?_
    obtain ⟨m, hp, rfl, _⟩ := hx.probe
    have f := accepted_facts hp
    obtain ⟨p, acc, h1, h2, h3, h4, h5, h6, h7, h8, _, h9⟩ := f.chunksFact
    exact { f with supported := hx.supported, allowed := hx.allowed
                   chunksFact := ⟨p, acc, h1, h2, h3, h4, h5, h6, h7, h8, h9⟩ }
  · refine Or.inr ⟨fb, rfl, hfb.imp fun x hx => ?_, hsubs⟩
    obtain ⟨m, hp, rfl, _⟩ := hx.probe
    exact { fallback_facts hp with supported := hx.supported, allowed := hx.allowed }

theorem fromBytes_entry {W : World E L} {T : Tables E} {sort : Sorter E L}
    (hperm : ∀ l, (sort l).Perm l) {b : Bytes} {s : Settings} {incl excl : List E}
    (hincl : canonList T.ianaName s.incl = .ok incl) (hexcl : canonList T.ianaName s.excl = .ok excl)
    {ms : List (Match E L)} (hb : b ≠ []) (h : fromBytes W T sort b s = .ok (.ok ms))
    {m : Match E L} (hm : m ∈ ms) {c : Sub E L} (hc : c ∈ m.entries) :
    EntryAcc W T (ctxOf T b s) incl excl c ∨
      (EntryFb W T (ctxOf T b s) incl excl c ∧ ms = [m] ∧ m.subs = []) := by
  rcases fromBytes_facts hperm hincl hexcl hb h with hall | ⟨fb, rfl, hfb, hsubs⟩
  · exact Or.inl (Match.allEntries_iff.mp (hall m hm) c hc)
  · obtain rfl := List.mem_singleton.mp hm
    exact Or.inr ⟨Match.allEntries_iff.mp hfb c hc, rfl, hsubs⟩

/-- an entry whose chaos is below a numeric threshold is a regular one: the fallback's chaos *is* the threshold -/
theorem fromBytes_entry_regular {W : World E L} {T : Tables E} {sort : Sorter E L}
    (hperm : ∀ l, (sort l).Perm l) {b : Bytes} {s : Settings} {incl excl : List E}
    (hincl : canonList T.ianaName s.incl = .ok incl) (hexcl : canonList T.ianaName s.excl = .ok excl)
    (hthr : s.thr.isNaN = false)
    {ms : List (Match E L)} (hb : b ≠ []) (h : fromBytes W T sort b s = .ok (.ok ms))
    {m : Match E L} (hm : m ∈ ms) {c : Sub E L} (hc : c ∈ m.entries) (hge : Fl.ge c.chaos s.thr = false) :
    EntryAcc W T (ctxOf T b s) incl excl c := by
  rcases fromBytes_entry hperm hincl hexcl hb h hm hc with f | ⟨f, _⟩
  · exact f
  · rw [f.chaos, ctxOf_thr, Fl.ge_self hthr] at hge
    cases hge

structure EntryCommon (W : World E L) (T : Tables E) (c : Ctx E) (incl excl : List E) (s : Sub E L) : Prop where
  raw : s.raw = c.b
  supported : s.enc ∈ T.supported
  allowed : allowed incl excl s.enc = true
  bom : s.bom = true → bomHereOf c s.enc = true
  needsBom : needsBomCond T c s.enc = false
  text : TextOk W T c s.enc s.text
  remainder : RemainderOk W T c s.enc
  chunks : ∃ p acc, ChunkRun W T c s.enc s.text p acc

theorem EntryAcc.common {W : World E L} {T : Tables E} {c : Ctx E} {incl excl : List E} {s : Sub E L}
    (f : EntryAcc W T c incl excl s) : EntryCommon W T c incl excl s :=
  have ⟨p, acc, hrun, _⟩ := f.run
  { f with bom := fun h => f.bom ▸ h, chunks := ⟨p, acc, hrun⟩ }

theorem EntryFb.common {W : World E L} {T : Tables E} {c : Ctx E} {incl excl : List E} {s : Sub E L}
    (f : EntryFb W T c incl excl s) : EntryCommon W T c incl excl s :=
  have ⟨p, acc, h1, h2, h3, h4, h5⟩ := f.chunks
  { f with bom := fun h => absurd (f.bom ▸ h) Bool.false_ne_true, chunks := ⟨p, acc, h1, h2, h3, h4, h5⟩ }

theorem fromBytes_entry_common {W : World E L} {T : Tables E} {sort : Sorter E L}
    (hperm : ∀ l, (sort l).Perm l) {b : Bytes} {s : Settings} {incl excl : List E}
    (hincl : canonList T.ianaName s.incl = .ok incl) (hexcl : canonList T.ianaName s.excl = .ok excl)
    {ms : List (Match E L)} (hb : b ≠ []) (h : fromBytes W T sort b s = .ok (.ok ms))
    {m : Match E L} (hm : m ∈ ms) {c : Sub E L} (hc : c ∈ m.entries) : EntryCommon W T (ctxOf T b s) incl excl c := by
  rcases fromBytes_entry hperm hincl hexcl hb h hm hc with f | ⟨f, _⟩
  · exact f.common
  · exact f.common

end Charset
