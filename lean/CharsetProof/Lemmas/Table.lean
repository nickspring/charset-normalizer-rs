import CharsetProof.Model.Codec
namespace Charset

theorem tableStrict_cons_ok {tbl : List Nat} {b : Nat} {bs : Bytes} {t : Text} :
    tableStrict tbl (b :: bs) = .ok t ↔
      ∃ cp t', tbl[b]? = some cp ∧ cp ≠ undefCp ∧ tableStrict tbl bs = .ok t' ∧ t = cp :: t' := by
  simp only [tableStrict]
  cases tbl[b]? with
  | none => simp
  | some cp =>
    by_cases hu : cp = undefCp
    · simp [hu]
    · cases tableStrict tbl bs with
      | error k => simp [hu]
      | ok t' => simp [hu, eq_comm]

theorem tableStrict_append {tbl : List Nat} {x y : Bytes} {tx ty : Text}
    (hx : tableStrict tbl x = .ok tx) (hy : tableStrict tbl y = .ok ty) :
    tableStrict tbl (x ++ y) = .ok (tx ++ ty) := by
  induction x generalizing tx with
  | nil => cases hx; exact hy
  | cons b bs ih =>
    obtain ⟨cp, t', h1, h2, h3, rfl⟩ := tableStrict_cons_ok.mp hx
    exact tableStrict_cons_ok.mpr ⟨cp, _, h1, h2, ih h3, rfl⟩

theorem tableStrict_mem (tbl : List Nat) (x : Bytes) (t : Text) (h : tableStrict tbl x = .ok t) :
    ∀ c ∈ t, c ∈ tbl := by
  induction x generalizing t with
  | nil => cases h; simp
  | cons b bs ih =>
    obtain ⟨cp, t', h1, _, h3, rfl⟩ := tableStrict_cons_ok.mp h
    intro c hc
    rcases List.mem_cons.mp hc with rfl | hc
    · exact List.mem_of_getElem? h1
    · exact ih t' h3 c hc

theorem tableStrict_length (tbl : List Nat) (x : Bytes) (t : Text) (h : tableStrict tbl x = .ok t) :
    t.length = x.length := by
  induction x generalizing t with
  | nil => cases h; rfl
  | cons b bs ih =>
    obtain ⟨cp, t', _, _, h3, rfl⟩ := tableStrict_cons_ok.mp h
    simp [ih t' h3]

theorem tableStrict_ascii_bytes (tbl : List Nat) (htbl : ∀ i v, 128 ≤ i → tbl[i]? = some v → 128 ≤ v) :
    ∀ (x : Bytes) (t : Text), tableStrict tbl x = .ok t → t.all (· < 128) = true → x.all (· < 128) = true
  | [], _, _, _ => rfl
  | b :: bs, t, h, ha => by
    obtain ⟨cp, t', hb, _, hr, rfl⟩ := tableStrict_cons_ok.mp h
    simp only [List.all_cons, Bool.and_eq_true, decide_eq_true_eq] at ha
    have hlt : b < 128 := Nat.lt_of_not_le fun h1 => Nat.not_le_of_lt ha.1 (htbl b cp h1 hb)
    simp [hlt, tableStrict_ascii_bytes tbl htbl bs t' hr ha.2]

end Charset
