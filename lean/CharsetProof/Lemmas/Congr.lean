/-
  The model of `from_bytes` sees its world only through the answers for supported encodings: two worlds that agree
  there (and on mess / coherence / merge) give the same detection.  Used to show that the fully modelled world does
  not depend on the oracle it is handed (Props/C11Full.lean).
-/
import CharsetProof.Lemmas.Probe
namespace Charset
variable {E L : Type} [DecidableEq E]

structure World.AgreeOn (W W' : World E L) (S : List E) : Prop where
  decode : ∀ e ∈ S, ∀ x, W.decode e x = W'.decode e x
  decodeChunk : ∀ e ∈ S, ∀ x, W.decodeChunk e x = W'.decodeChunk e x
  target : ∀ e ∈ S, W.target e = W'.target e
  mess : W.mess = W'.mess
  coh : W.coh = W'.coh
  merge : W.merge = W'.merge

theorem chunkLoop_congr {W W' : World E L} {S : List E} (h : W.AgreeOn W' S) {T : Tables E} {c : Ctx E} {e : E}
    (he : e ∈ S) {payload : Option Text} {seqLen maxGaveUp : Nat} (offs : List Nat) (acc : ChunkAcc) :
    chunkLoop W T c e payload seqLen maxGaveUp offs acc = chunkLoop W' T c e payload seqLen maxGaveUp offs acc := by
  induction offs generalizing acc with
  | nil => rfl
  | cons off offs ih => simp only [chunkLoop, chunkAt, h.decode e he, h.mess, ih]

omit [DecidableEq E] in
theorem cohAll_congr {W W' : World E L} (h : W.coh = W'.coh) (thr : F32) (langs : List L) (ts : List Text) :
    cohAll W thr langs ts = cohAll W' thr langs ts := by
  induction ts with
  | nil => rfl
  | cons t ts ih => simp only [cohAll, h, ih]

theorem probe_congr {W W' : World E L} {S : List E} (h : W.AgreeOn W' S) {T : Tables E} {c : Ctx E}
    {soft : List E} {e : E} (he : e ∈ S) : probe W T c soft e = probe W' T c soft e := by
  simp only [probe, probePrepare, probeChunks, probeRemainder, probeSoft, probeAccept, cdsOf, mkMatch,
    chunkLoop_congr h he, cohAll_congr h.coh, h.decode e he, h.decodeChunk e he, h.target e he, h.merge]

theorem detectLoop_congr {W W' : World E L} {S : List E} (h : W.AgreeOn W' S) {T : Tables E} {sort : Sorter E L}
    {c : Ctx E} {incl excl : List E} {es : List E} (hes : ∀ e ∈ es, e ∈ S) (st : LoopState E L) :
    detectLoop W T sort c incl excl es st = detectLoop W' T sort c incl excl es st := by
  induction es generalizing st with
  | nil => rfl
  | cons e es ih =>
    obtain ⟨he, hes⟩ := List.forall_mem_cons.mp hes
    simp only [detectLoop, probe_congr h he, ih hes]

theorem fromBytes_congr {W W' : World E L} {T : Tables E} (h : W.AgreeOn W' T.supported) (sort : Sorter E L)
    (b : Bytes) (s : Settings) : fromBytes W T sort b s = fromBytes W' T sort b s := by
  simp only [fromBytes, detectLoop_congr h fun e he => mem_probeOrder_iff.mp he]

end Charset
