import CharsetProof.Model.Entity
namespace Charset
variable {E L : Type}

def Match.AllEntries (R : Sub E L → Prop) (m : Match E L) : Prop :=
  R m.toSub ∧ ∀ s ∈ m.subs, R s

theorem Match.AllEntries.imp {R R' : Sub E L → Prop} (h : ∀ s, R s → R' s) {m : Match E L} (hm : m.AllEntries R) :
    m.AllEntries R' :=
  ⟨h _ hm.1, fun s hs => h s (hm.2 s hs)⟩

def Match.entries (m : Match E L) : List (Sub E L) := m.toSub :: m.subs

theorem Match.toSub_mem_entries (m : Match E L) : m.toSub ∈ m.entries := List.mem_cons_self

theorem Match.allEntries_iff {R : Sub E L → Prop} {m : Match E L} :
    m.AllEntries R ↔ ∀ s ∈ m.entries, R s := by
  unfold Match.AllEntries Match.entries
  simp

set_option linter.unusedSectionVars false in
variable [DecidableEq E] in
theorem Match.cands_eq (m : Match E L) : m.cands = m.entries.map (·.enc) := by
  simp [Match.cands, Match.entries, Match.toSub]

theorem mergeInto_some {item : Match E L} {items items' : List (Match E L)}
    (h : mergeInto item items = some items') :
    ∃ pre m post, items = pre ++ m :: post ∧ sameOutput m item = true ∧
      (∀ x ∈ pre, sameOutput x item = false) ∧
      items' = pre ++ { m with subs := m.subs ++ [item.toSub] } :: post := by
  induction items generalizing items' with
  | nil => simp [mergeInto] at h
  | cons a as ih =>
    simp only [mergeInto] at h
    split at h
    · rename_i hs
      cases h
      exact ⟨[], a, as, rfl, hs, by simp, rfl⟩
    · rename_i hs
      cases hm : mergeInto item as with
      | none => simp [hm] at h
      | some r =>
        simp only [hm, Option.map_some, Option.some.injEq] at h
        obtain ⟨pre, m, post, h1, h2, h3, h4⟩ := ih hm
        refine ⟨a :: pre, m, post, by simp [h1], h2, ?_, by simp [← h, h4]⟩
        intro x hx
        simp only [List.mem_cons] at hx
        rcases hx with rfl | hx
        · simpa using hs
        · exact h3 x hx

theorem mergeInto_none {item : Match E L} {items : List (Match E L)} (h : mergeInto item items = none) :
    ∀ m ∈ items, sameOutput m item = false := by
  induction items with
  | nil => simp
  | cons a as ih =>
    simp only [mergeInto] at h
    split at h
    · cases h
    · rename_i hsa
      intro m hm
      simp only [List.mem_cons] at hm
      rcases hm with rfl | hm
      · simpa using hsa
      · exact ih (by simpa using h) m hm

theorem sameOutput_iff {m item : Match E L} : sameOutput m item = true ↔
    m.text = item.text ∧ Fl.lt (Fl.abs (Fl.sub m.chaos item.chaos)) F32.epsilon = true := by
  rw [sameOutput, Bool.and_eq_true, beq_iff_eq]

/-- the two ways `append` goes: the item becomes a sub-match of the first element with the same output, or (there
    being none, or the input being too big) the list with the item at the end is sorted -/
theorem append_cases (sort : Sorter E L) (tooBig : Nat) (items : List (Match E L)) (item : Match E L) :
    (∃ pre m post, items = pre ++ m :: post ∧ sameOutput m item = true ∧
      (∀ x ∈ pre, sameOutput x item = false) ∧
      append sort tooBig items item = pre ++ { m with subs := m.subs ++ [item.toSub] } :: post) ∨
    ((tooBig < item.raw.length ∨ ∀ m ∈ items, sameOutput m item = false) ∧
      append sort tooBig items item = sort (items ++ [item])) := by
  unfold append
  split
  · rename_i items' hm
    split at hm
    · exact Or.inl (mergeInto_some hm)
    · cases hm
  · rename_i hm
    refine Or.inr ⟨?_, rfl⟩
    split at hm
    · exact Or.inr (mergeInto_none hm)
    · exact Or.inl (by omega)

theorem append_mem {sort : Sorter E L} (hperm : ∀ l, (sort l).Perm l) {tooBig : Nat}
    {items : List (Match E L)} {item x : Match E L} (hx : x ∈ append sort tooBig items item) :
    x ∈ items ∨ x = item ∨
      ∃ m ∈ items, sameOutput m item = true ∧ x = { m with subs := m.subs ++ [item.toSub] } := by
  rcases append_cases sort tooBig items item with ⟨pre, m, post, h1, h2, _, h4⟩ | ⟨_, h4⟩
  · rw [h4] at hx
    simp only [List.mem_append, List.mem_cons] at hx
    rcases hx with hx | rfl | hx
    · left; simp [h1, hx]
    · right; right; exact ⟨m, by simp [h1], h2, rfl⟩
    · left; simp [h1, hx]
  · rw [h4, (hperm _).mem_iff, List.mem_append, List.mem_singleton] at hx
    exact hx.imp_right .inl

theorem append_allEntries {sort : Sorter E L} (hperm : ∀ l, (sort l).Perm l) {tooBig : Nat}
    {R : Sub E L → Prop} {items : List (Match E L)} {item : Match E L}
    (hitems : ∀ m ∈ items, m.AllEntries R) (hitem : item.AllEntries R) :
    ∀ m ∈ append sort tooBig items item, m.AllEntries R := by
  rcases append_cases sort tooBig items item with ⟨pre, m, post, rfl, _, _, h4⟩ | ⟨_, h4⟩
  · rw [h4]
    simp only [List.forall_mem_append, List.forall_mem_cons] at hitems ⊢
    obtain ⟨hpre, hm, hpost⟩ := hitems
    refine ⟨hpre, ⟨hm.1, fun s hs => ?_⟩, hpost⟩
    rcases List.mem_append.mp hs with hs | hs
    · exact hm.2 s hs
    · exact List.mem_singleton.mp hs ▸ hitem.1
  · rw [h4]
    intro x hx
    rcases List.mem_append.mp ((hperm _).mem_iff.mp hx) with hx | hx
    · exact hitems x hx
    · exact List.mem_singleton.mp hx ▸ hitem

theorem append_nil {sort : Sorter E L} (hperm : ∀ l, (sort l).Perm l) {tooBig : Nat} (fb : Match E L) :
    append sort tooBig [] fb = [fb] := by
  rcases append_cases sort tooBig [] fb with ⟨pre, m, post, h, _⟩ | ⟨_, h⟩
  · exact absurd h (by simp)
  · rw [h]
    simpa using hperm [fb]

theorem append_ne_nil {sort : Sorter E L} (hperm : ∀ l, (sort l).Perm l) {tooBig : Nat} {items : List (Match E L)}
    {m : Match E L} : append sort tooBig items m ≠ [] := by
  rcases append_cases sort tooBig items m with ⟨pre, m0, post, _, _, _, h⟩ | ⟨_, h⟩
  · rw [h]; simp
  · intro h0
    have := (hperm (items ++ [m])).length_eq
    rw [← h, h0] at this
    simp at this

end Charset
