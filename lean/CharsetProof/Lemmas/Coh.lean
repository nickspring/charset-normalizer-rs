/-
  coherence_ratio inside the model: every language it reports is a candidate of some layer; with a
  non-empty include list (other than [Unknown]) only listed languages are reported; every score is `0.0` or a
  popularity comparison on a duplicate-free list of scalar values (`Coh.coherenceRatio_scores`).
-/
import CharsetProof.Model.Coh
import CharsetProof.Lemmas.Merge
import CharsetProof.Lemmas.Ranges
namespace Charset
variable {L : Type} [DecidableEq L]

omit [DecidableEq L] in
theorem cohLayer_mem (thr : F32) (score : L → F32) (ls : List L) (suff : Nat) :
    ∀ p ∈ (cohLayer thr score ls suff).1, p.1 ∈ ls ∧ p.2 = score p.1 := by
  fun_induction cohLayer thr score ls suff with
  | case1 => simp
  | case2 l ls suff r hlt ih => exact fun p hp => ⟨List.mem_cons_of_mem _ (ih p hp).1, (ih p hp).2⟩
  | case3 l ls suff r hlt suff' h3 => simp [r]
  | case4 l ls suff r hlt suff' h3 rest ih =>
    intro p hp
    rcases List.mem_cons.mp hp with rfl | hp
    · exact ⟨List.mem_cons_self, rfl⟩
    · exact ⟨List.mem_cons_of_mem _ (ih p hp).1, (ih p hp).2⟩

omit [DecidableEq L] in
theorem cohLayers_mem (thr : F32) (score : Nat → L → F32) (cands : Nat → List L) (layers : List Nat) (suff : Nat) :
    ∀ p ∈ cohLayers thr score cands layers suff, ∃ i ∈ layers, p.1 ∈ cands i ∧ p.2 = score i p.1 := by
  fun_induction cohLayers thr score cands layers suff with
  | case1 => simp
  | case2 i is suff r ih =>
    intro p hp
    rcases List.mem_append.mp hp with hp | hp
    · exact ⟨i, List.mem_cons_self, cohLayer_mem thr (score i) (cands i) suff p hp⟩
    · obtain ⟨j, hj, h⟩ := ih p hp
      exact ⟨j, List.mem_cons_of_mem _ hj, h⟩

theorem coherenceRatioModel_keys (thr : F32) (n : Nat) (score : Nat → L → F32) (cands : Nat → List L) :
    ((coherenceRatioModel thr n score cands).map (·.1)).Perm (langsOf (cohLayers thr score cands (List.range n) 0)) := by
  rw [← filterAlt_keys]
  exact List.Perm.map _ (sortDesc_perm _)

theorem coherenceRatioModel_mem {thr : F32} {n : Nat} {score : Nat → L → F32} {cands : Nat → List L} {q : L × F32}
    (hq : q ∈ coherenceRatioModel thr n score cands) : ∃ i, i < n ∧ q.1 ∈ cands i ∧ q.2 = score i q.1 := by
  obtain ⟨i, hi, h⟩ := cohLayers_mem thr score cands _ _ q (filterAlt_subset _ q ((sortDesc_perm _).mem_iff.mp hq))
  exact ⟨i, List.mem_range.mp hi, h⟩

/-- an answer of `coherence_ratio` is `coherenceRatioModel` on the popularity scores of the layers (`pops`: their
    most common characters); with a non-empty include list other than `[Unknown]` the candidates of every
    layer are the listed languages (cd.rs:230-234) -/
theorem Coh.coherenceRatio_some {env : Coh.CohEnv} {ranges : List (Name × Nat × Nat)}
    {secondary : List Name} {tbl : Coh.LangTable} {tooSmall : Nat} {t : Text} {thr : F32} {incl : List Name}
    {r : List (Name × F32)} (h : Coh.coherenceRatio env ranges secondary tbl tooSmall t thr incl = some r) :
    ∃ (n : Nat) (cands : Nat → List Name) (pops : Array (List Nat)),
      (∀ p ∈ pops, ∃ layer ∈ Coh.alphaSplit env ranges secondary t, p = Coh.popular layer) ∧
      r = coherenceRatioModel thr n (fun i l => (Coh.popularityCompare tbl l (pops[i]?.getD [])).getD Fl.zero) cands ∧
      (incl ≠ [] → incl ≠ [Coh.nUnknownLang] → ∀ i, cands i = incl) := by
  unfold Coh.coherenceRatio at h
  extract_lets ignoreNonLatin incl' layers pops cands at h
  split at h
  · cases h
  · refine ⟨_, cands, pops, fun p hp => ?_, (Option.some.inj h).symm, fun hne hunk i => ?_⟩
    · simp only [pops, layers, Array.mem_map, List.mem_toArray, List.mem_filter] at hp
      obtain ⟨layer, ⟨hlayer, _⟩, rfl⟩ := hp
      exact ⟨layer, hlayer, rfl⟩
    · have h1 : ignoreNonLatin = false := beq_eq_false_iff_ne.mpr hunk
      have h2 : incl' = incl := by simp only [incl', h1]; rfl
      simp only [cands, h2, List.isEmpty_iff, hne, if_false]

/-- **include-list law of `coherence_ratio`** (cd.rs:230-234): with a non-empty include list other than
    `[Unknown]`, only listed languages are reported -/
theorem Coh.coherenceRatio_respects_include (env : Coh.CohEnv) (ranges : List (Name × Nat × Nat))
    (secondary : List Name) (tbl : Coh.LangTable) (tooSmall : Nat) (t : Text) (thr : F32) (incl : List Name)
    (r : List (Name × F32)) (h : Coh.coherenceRatio env ranges secondary tbl tooSmall t thr incl = some r)
    (hne : incl ≠ []) (hunk : incl ≠ [Coh.nUnknownLang]) : ∀ p ∈ r, p.1 ∈ incl := by
  obtain ⟨n, cands, _, _, rfl, hc⟩ := Coh.coherenceRatio_some h
  intro p hp
  obtain ⟨i, _, hl, _⟩ := coherenceRatioModel_mem hp
  rwa [hc hne hunk i] at hl

theorem Coh.coherenceRatio_nodup {env : Coh.CohEnv} {ranges : List (Name × Nat × Nat)}
    {secondary : List Name} {tbl : Coh.LangTable} {tooSmall : Nat} {t : Text} {thr : F32} {incl : List Name}
    {r : List (Name × F32)} (h : Coh.coherenceRatio env ranges secondary tbl tooSmall t thr incl = some r) :
    (r.map (·.1)).Nodup := by
  obtain ⟨n, cands, _, _, rfl, _⟩ := Coh.coherenceRatio_some h
  exact (coherenceRatioModel_keys _ _ _ _).nodup_iff.mpr (langsOf_nodup _)

theorem mem_dedupNat (l : List Nat) (a : Nat) : a ∈ Coh.dedupNat l ↔ a ∈ l :=
  (dedup_spec rfl (fun _ _ => rfl) l).2 a

theorem nodup_dedupNat (l : List Nat) : (Coh.dedupNat l).Nodup := (dedup_spec rfl (fun _ _ => rfl) l).1

theorem popular_spec (layer : Text) : (Coh.popular layer).Nodup ∧ ∀ c ∈ Coh.popular layer, c ∈ layer := by
  have hp : (Coh.popular layer).Perm (Coh.dedupNat layer) := by
    have := (insertionSort_perm (fun (a b : Nat × Nat) => decide (b.2 < a.2) || (a.2 == b.2 && decide (a.1 < b.1)))
      ((Coh.dedupNat layer).map (fun c => (c, Coh.countOf c layer)))).map (·.1)
    rwa [List.map_map, show ((fun x : Nat × Nat => x.1) ∘ fun c => (c, Coh.countOf c layer)) = id from rfl,
      List.map_id] at this
  exact ⟨hp.nodup_iff.mpr (nodup_dedupNat layer), fun c hc => (mem_dedupNat layer c).mp (hp.mem_iff.mp hc)⟩

theorem nodup_bounded_length {l : List Nat} {n : Nat} (hnd : l.Nodup) (hb : ∀ x ∈ l, x < n) : l.length ≤ n := by
  have := List.Nodup.length_le_of_subset hnd (l₂ := List.range n) (fun x hx => List.mem_range.mpr (hb x hx))
  simpa using this

theorem appendLayer_mem {key : Name} {cs : List Nat} {layers : List (Name × Text)} {P : Nat → Prop}
    (hl : ∀ kt ∈ layers, ∀ x ∈ kt.2, P x) (hcs : ∀ x ∈ cs, P x) :
    ∀ kt ∈ Coh.appendLayer key cs layers, ∀ x ∈ kt.2, P x := by
  fun_induction Coh.appendLayer key cs layers with
  | case1 => exact hl
  | case2 t rest =>
    obtain ⟨h1, h2⟩ := List.forall_mem_cons.mp hl
    exact List.forall_mem_cons.mpr ⟨List.forall_mem_append.mpr ⟨h1, hcs⟩, h2⟩
  | case3 k t rest hk ih =>
    obtain ⟨h1, h2⟩ := List.forall_mem_cons.mp hl
    exact List.forall_mem_cons.mpr ⟨h1, ih h2⟩

theorem splitStep_mem {env : Coh.CohEnv} {ranges : List (Name × Nat × Nat)} {secondary : List Name}
    {layers : List (Name × Text)} {ch : Nat} {P : Nat → Prop}
    (hl : ∀ kt ∈ layers, ∀ x ∈ kt.2, P x) (hcs : ∀ x ∈ env.lower ch, P x) :
    ∀ kt ∈ Coh.splitStep env ranges secondary layers ch, ∀ x ∈ kt.2, P x := by
  unfold Coh.splitStep
  split
  · exact hl
  · split
    · exact hl
    · refine appendLayer_mem ?_ hcs
      split
      · exact hl
      · exact List.forall_mem_append.mpr ⟨hl, List.forall_mem_singleton.mpr (fun _ h => nomatch h)⟩

theorem alphaSplit_mem {env : Coh.CohEnv} {ranges : List (Name × Nat × Nat)} {secondary : List Name} {t : Text}
    {P : Nat → Prop} (hP : ∀ c ∈ t, ∀ x ∈ env.lower c, P x) :
    ∀ layer ∈ Coh.alphaSplit env ranges secondary t, ∀ x ∈ layer, P x := by
  intro layer hlayer x hx
  obtain ⟨kt, hkt, rfl⟩ := List.mem_map.mp hlayer
  exact List.foldlRecOn (motive := fun layers => ∀ kt ∈ layers, ∀ x ∈ kt.2, P x) t (Coh.splitStep env ranges secondary)
    (by simp) (fun layers hl c hc => splitStep_mem hl (hP c hc)) kt hkt x hx

/-- `0x110000`: the lists compared are duplicate-free lists of lowercase images (scalar values, `henv`) of characters
    of the text -/
theorem Coh.coherenceRatio_scores (P : F32 → Prop) {env : Coh.CohEnv} {ranges : List (Name × Nat × Nat)}
    {secondary : List Name} {tbl : Coh.LangTable} {tooSmall : Nat} {t : Text} {thr : F32} {incl : List Name}
    (henv : ∀ c x, x ∈ env.lower c → x < 0x110000) (h0 : P Fl.zero)
    (hP : ∀ l ordered x, ordered.length ≤ 0x110000 → Coh.popularityCompare tbl l ordered = some x → P x)
    {r : List (Name × F32)} (h : Coh.coherenceRatio env ranges secondary tbl tooSmall t thr incl = some r) :
    ∀ q ∈ r, P q.2 := by
  obtain ⟨n, cands, pops, hpops, rfl, _⟩ := Coh.coherenceRatio_some h
  intro q hq
  obtain ⟨i, _, _, hs⟩ := coherenceRatioModel_mem hq
  rw [hs]
  have hpop : (pops[i]?.getD []).length ≤ 0x110000 := by
    cases hi : pops[i]? with
    | none => simp
    | some p =>
      obtain ⟨layer, hlayer, rfl⟩ := hpops p (Array.mem_of_getElem? hi)
      have hsp := popular_spec layer
      exact nodup_bounded_length hsp.1 fun x hx =>
        alphaSplit_mem (fun c _ => henv c) layer hlayer x (hsp.2 x hx)
  cases hpc : Coh.popularityCompare tbl q.1 (pops[i]?.getD []) with
  | none => exact h0
  | some x => exact hP q.1 _ x hpop hpc

end Charset
